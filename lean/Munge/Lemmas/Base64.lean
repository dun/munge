import Munge.Model.Base64
/-
Lemmas about the model of `base64.c`: the byte expressions as arithmetic on bit fields, what the two generated tables
say, the decoder's loop character by character (round trip, write bound, the strings it accepts), and the streaming
coders against the block coders.
-/
namespace Munge.Base64
open Munge.Gen.Base64

/-
Every expression of `base64.c` moves a bit field of a byte: `(x >> k) & m` or `(x << k) & m` with `m` a run of `n`
ones; `|` joins fields that do not overlap.  Three lemmas turn these into `/`, `%`, `*` and `+`, after which each
identity between sextets and octets is linear arithmetic. -/

theorem toNat_shr_and (x k m : UInt8) (n : Nat) (hk : k.toNat < 8) (hm : m.toNat = 2 ^ n - 1) :
    ((x >>> k) &&& m).toNat = x.toNat / 2 ^ k.toNat % 2 ^ n := by
  rw [UInt8.toNat_and, UInt8.toNat_shiftRight, hm, Nat.and_two_pow_sub_one_eq_mod, Nat.mod_eq_of_lt hk,
    Nat.shiftRight_eq_div_pow]

theorem toNat_shl_and (x k m : UInt8) (n : Nat) (hk : k.toNat < 8) (hn : n + k.toNat ≤ 8)
    (hm : m.toNat = (2 ^ n - 1) <<< k.toNat) :
    ((x <<< k) &&& m).toNat = x.toNat % 2 ^ n * 2 ^ k.toNat := by
  have hlt : x.toNat % 2 ^ n * 2 ^ k.toNat < 2 ^ 8 :=
    calc _ < 2 ^ n * 2 ^ k.toNat :=
          Nat.mul_lt_mul_of_pos_right (Nat.mod_lt _ (Nat.two_pow_pos n)) (Nat.two_pow_pos _)
      _ = 2 ^ (n + k.toNat) := (Nat.pow_add ..).symm
      _ ≤ 2 ^ 8 := Nat.pow_le_pow_right (by decide) hn
  -- the mask is below 2^8, so `% 2^8` can be taken after the `&&&`, where the shift distributes
  rw [UInt8.toNat_and, UInt8.toNat_shiftLeft, Nat.mod_eq_of_lt hk, ← Nat.mod_eq_of_lt m.toNat_lt,
    ← Nat.and_mod_two_pow, hm, ← Nat.shiftLeft_and_distrib, Nat.and_two_pow_sub_one_eq_mod, Nat.shiftLeft_eq,
    Nat.mod_eq_of_lt hlt]

theorem toNat_or_add (x y : UInt8) (k m r : Nat) (hx : x.toNat = m * 2 ^ k) (hy : y.toNat = r % 2 ^ k) :
    (x ||| y).toNat = m * 2 ^ k + r % 2 ^ k := by
  rw [UInt8.toNat_or, hx, hy, Nat.mul_comm, Nat.two_pow_add_eq_or_of_lt (Nat.mod_lt _ (Nat.two_pow_pos k))]

theorem sx0_toNat (a : UInt8) : (sx0 a).toNat = a.toNat / 4 := by
  have h : (sx0 a).toNat = a.toNat / 4 % 64 := toNat_shr_and a 2 0x3f 6 (by decide) (by decide)
  have := a.toNat_lt; omega
theorem sx3_toNat (c : UInt8) : (sx3 c).toNat = c.toNat % 64 :=
  (UInt8.toNat_and ..).trans (Nat.and_two_pow_sub_one_eq_mod _ 6)
theorem sx1'_toNat (a : UInt8) : (sx1' a).toNat = a.toNat % 4 * 16 :=
  toNat_shl_and a 4 0x30 2 (by decide) (by decide) (by decide)
theorem sx2'_toNat (b : UInt8) : (sx2' b).toNat = b.toNat % 16 * 4 :=
  toNat_shl_and b 2 0x3c 4 (by decide) (by decide) (by decide)
theorem sx1_toNat (a b : UInt8) : (sx1 a b).toNat = a.toNat % 4 * 16 + b.toNat / 16 := by
  have h : ((b >>> 4) &&& 0x0f).toNat = b.toNat / 16 % 16 := toNat_shr_and b 4 0x0f 4 (by decide) (by decide)
  have : (sx1 a b).toNat = _ := toNat_or_add (sx1' a) _ 4 _ _ (sx1'_toNat a) h
  have := b.toNat_lt; omega
theorem sx2_toNat (b c : UInt8) : (sx2 b c).toNat = b.toNat % 16 * 4 + c.toNat / 64 := by
  have h : ((c >>> 6) &&& 0x03).toNat = c.toNat / 64 % 4 := toNat_shr_and c 6 0x03 2 (by decide) (by decide)
  have : (sx2 b c).toNat = _ := toNat_or_add (sx2' b) _ 2 _ _ (sx2'_toNat b) h
  have := c.toNat_lt; omega

theorem sx_digits (a b c : UInt8) :
    (sx0 a).toNat = (a.toNat * 65536 + b.toNat * 256 + c.toNat) / 262144 ∧
    (sx1 a b).toNat = (a.toNat * 65536 + b.toNat * 256 + c.toNat) / 4096 % 64 ∧
    (sx2 b c).toNat = (a.toNat * 65536 + b.toNat * 256 + c.toNat) / 64 % 64 ∧
    (sx3 c).toNat = (a.toNat * 65536 + b.toNat * 256 + c.toNat) % 64 := by
  have := a.toNat_lt; have := b.toNat_lt; have := c.toNat_lt
  rw [sx0_toNat, sx1_toNat, sx2_toNat, sx3_toNat]
  omega

theorem dc0_toNat (c : UInt8) : (dc0 c).toNat = c.toNat % 64 * 4 :=
  toNat_shl_and c 2 0xfc 6 (by decide) (by decide) (by decide)
theorem dc1a_toNat (c : UInt8) : (dc1a c).toNat = c.toNat / 16 % 4 :=
  toNat_shr_and c 4 0x03 2 (by decide) (by decide)
theorem dc1b_toNat (c : UInt8) : (dc1b c).toNat = c.toNat % 16 * 16 :=
  toNat_shl_and c 4 0xf0 4 (by decide) (by decide) (by decide)
theorem dc2a_toNat (c : UInt8) : (dc2a c).toNat = c.toNat / 4 % 16 :=
  toNat_shr_and c 2 0x0f 4 (by decide) (by decide)
theorem dc2b_toNat (c : UInt8) : (dc2b c).toNat = c.toNat % 4 * 64 :=
  toNat_shl_and c 6 0xc0 2 (by decide) (by decide) (by decide)
theorem dc3_toNat (c : UInt8) : (dc3 c).toNat = c.toNat % 64 := sx3_toNat c

theorem sx0_lt (a : UInt8) : (sx0 a).toNat < 64 := by
  have := sx0_toNat a; have := a.toNat_lt; omega
theorem sx1_lt (a b : UInt8) : (sx1 a b).toNat < 64 := by
  have := sx1_toNat a b; have := b.toNat_lt; omega
theorem sx2_lt (b c : UInt8) : (sx2 b c).toNat < 64 := by
  have := sx2_toNat b c; have := c.toNat_lt; omega
theorem sx3_lt (c : UInt8) : (sx3 c).toNat < 64 := by
  have := sx3_toNat c; omega

/-- the decoder's joins give back the octets `a b c` from the sextets the encoder cut them into -/
theorem octet_a (a b : UInt8) : dc0 (sx0 a) ||| dc1a (sx1 a b) = a := by
  have := toNat_or_add (dc0 (sx0 a)) (dc1a (sx1 a b)) 2 _ _ (dc0_toNat _) (dc1a_toNat _)
  rw [sx0_toNat, sx1_toNat] at this
  have := a.toNat_lt; have := b.toNat_lt; exact UInt8.toNat_inj.mp (by omega)
theorem octet_b (a b c : UInt8) : dc1b (sx1 a b) ||| dc2a (sx2 b c) = b := by
  have := toNat_or_add (dc1b (sx1 a b)) (dc2a (sx2 b c)) 4 _ _ (dc1b_toNat _) (dc2a_toNat _)
  rw [sx1_toNat, sx2_toNat] at this
  have := b.toNat_lt; have := c.toNat_lt; exact UInt8.toNat_inj.mp (by omega)
theorem octet_c (b c : UInt8) : dc2b (sx2 b c) ||| dc3 (sx3 c) = c := by
  have := toNat_or_add (dc2b (sx2 b c)) (dc3 (sx3 c)) 6 _ _ (dc2b_toNat _) (dc3_toNat _)
  rw [sx2_toNat, sx3_toNat] at this
  have := c.toNat_lt; exact UInt8.toNat_inj.mp (by omega)

/-- the tail expressions are the full ones with the missing octet taken as 0 (RFC 4648: "padded with zero bits") -/
theorem sx1'_eq (a : UInt8) : sx1' a = sx1 a 0 := UInt8.or_zero.symm
theorem sx2'_eq (b : UInt8) : sx2' b = sx2 b 0 := UInt8.or_zero.symm

theorem a2b_b2a_fin : ∀ i : Fin 64, a2b (b2a (UInt8.ofNat i)) = UInt8.ofNat i := by decide +kernel

theorem a2b_b2a (x : UInt8) (h : x.toNat < 64) : a2b (b2a x) = x := by
  have := a2b_b2a_fin ⟨x.toNat, h⟩; simpa using this

/-- One pass over `asc2bin` with its indices, instead of 256 lookups `asc2bin.getD c`, for each of which the kernel
    walks the list. -/
theorem asc2bin_entries : ∀ p ∈ asc2bin.zipIdx,
    (p.1 = PAD ↔ p.2 = 61) ∧ (p.1 = IGN ↔ p.2 ∈ [9, 10, 11, 12, 13, 32]) ∧
    (p.1.toNat < 64 → (b2a p.1).toNat = p.2) ∧
    (p.1.toNat < 64 ∨ p.1 = IGN ∨ p.1 = PAD ∨ p.1 = ERR) := by decide +kernel

theorem val_ne (c : UInt8) (h : c.toNat < 64) : c ≠ IGN ∧ c ≠ PAD ∧ c ≠ ERR := by
  refine ⟨?_, ?_, ?_⟩ <;> intro e <;> rw [e] at h <;> revert h <;> decide

theorem mem_bin2asc {ch : UInt8} : ch ∈ bin2asc ↔ ∃ v : UInt8, v.toNat < 64 ∧ b2a v = ch := by
  have hl : bin2asc.length = 64 := rfl
  constructor
  · intro h
    obtain ⟨i, hi, rfl⟩ := List.getElem_of_mem h
    have hv : (UInt8.ofNat i).toNat = i := by simp; omega
    exact ⟨UInt8.ofNat i, by omega, by simp [b2a, hv, List.getElem?_eq_getElem hi]⟩
  · rintro ⟨v, hv, rfl⟩
    simp [b2a, List.getElem?_eq_getElem (hl ▸ hv)]

theorem a2b_entry (ch : UInt8) : (a2b ch, ch.toNat) ∈ asc2bin.zipIdx :=
  have hl : ch.toNat < asc2bin.length := Nat.lt_of_lt_of_eq ch.toNat_lt (by decide +kernel)
  List.mem_zipIdx_iff_getElem?.mpr (by simp [a2b, List.getElem?_eq_getElem hl])

theorem a2b_class (ch : UInt8) : (a2b ch).toNat < 64 ∨ a2b ch = IGN ∨ a2b ch = PAD ∨ a2b ch = ERR :=
  (asc2bin_entries _ (a2b_entry ch)).2.2.2

theorem a2b_spec (ch : UInt8) :
    (a2b ch = PAD ↔ ch = 61) ∧ (a2b ch = IGN ↔ ch.toNat ∈ [9, 10, 11, 12, 13, 32]) ∧
    ((a2b ch).toNat < 64 ↔ ch ∈ bin2asc) ∧
    (a2b ch = ERR ↔ ¬ (ch = 61 ∨ ch.toNat ∈ [9, 10, 11, 12, 13, 32] ∨ ch ∈ bin2asc)) := by
  obtain ⟨h1, h2, h3, -⟩ := asc2bin_entries _ (a2b_entry ch)
  dsimp only at h1 h2 h3
  have hP : a2b ch = PAD ↔ ch = 61 := h1.trans (by rw [← UInt8.toNat_inj]; rfl)
  have hV : (a2b ch).toNat < 64 ↔ ch ∈ bin2asc :=
    ⟨fun h => mem_bin2asc.mpr ⟨_, h, UInt8.toNat_inj.mp (h3 h)⟩,
     fun h => by obtain ⟨v, hv, rfl⟩ := mem_bin2asc.mp h; rwa [a2b_b2a v hv]⟩
  refine ⟨hP, h2, hV, fun hE => ?_, fun hn => ?_⟩
  · rw [← hP, ← h2, ← hV, hE]; decide
  · rcases a2b_class ch with h | h | h | h
    · exact absurd (.inr (.inr (hV.mp h))) hn
    · exact absurd (.inr (.inl (h2.mp h))) hn
    · exact absurd (.inl (hP.mp h)) hn
    · exact h

theorem a2b_61 : a2b 61 = PAD := by decide

/-- the `switch (i)` of the decoder on the sextet `c` -/
def valStep (s : DecSt) (c : UInt8) : DecSt :=
  match s.i with
  | 0 => { s with cur := dc0 c, i := 1 }
  | 1 => { s with out := s.out ++ [s.cur ||| dc1a c], cur := dc1b c, i := 2 }
  | 2 => { s with out := s.out ++ [s.cur ||| dc2a c], cur := dc2b c, i := 3 }
  | _ => { s with out := s.out ++ [s.cur ||| dc3 c], i := 0 }

theorem decStep_eq (s : DecSt) (ch : UInt8) : decStep s ch =
    if a2b ch = IGN then s
    else if a2b ch = PAD ∧ s.pad < 2 then { s with pad := s.pad + 1 }
    else if a2b ch = ERR ∨ s.pad > 0 then { s with err := true }
    else valStep s (a2b ch) := rfl

theorem decStep_ign (s : DecSt) (ch : UInt8) (h : a2b ch = IGN) : decStep s ch = s := by
  rw [decStep_eq, if_pos h]

theorem decStep_pad (s : DecSt) (h : s.pad < 2) : decStep s 61 = { s with pad := s.pad + 1 } := by
  rw [decStep_eq, a2b_61, if_neg (by decide), if_pos ⟨rfl, h⟩]

theorem decStep_val (s : DecSt) (ch : UInt8) (h : (a2b ch).toNat < 64) (hp : s.pad = 0) :
    decStep s ch = valStep s (a2b ch) := by
  obtain ⟨h1, h2, h3⟩ := val_ne _ h
  rw [decStep_eq, if_neg h1, if_neg (fun h => h2 h.1), if_neg (fun h => h.elim h3 (fun h => by omega))]

theorem valStep_ctl (s : DecSt) (c : UInt8) :
    (valStep s c).pad = s.pad ∧ (valStep s c).err = s.err ∧ (s.i < 4 → (valStep s c).i = (s.i + 1) % 4) := by
  obtain ⟨i, pad, out, cur, err⟩ := s
  match i with
  | 0 | 1 | 2 => exact ⟨rfl, rfl, fun _ => rfl⟩
  | n + 3 => exact ⟨rfl, rfl, fun (hi : n + 3 < 4) => show 0 = (n + 3 + 1) % 4 by omega⟩

/-- the converse of `decStep_ign`, `decStep_pad`, `decStep_val`: every step is one of these or the error -/
theorem decStep_cases (s : DecSt) (ch : UInt8) :
    a2b ch = IGN ∧ decStep s ch = s ∨
    ch = 61 ∧ s.pad < 2 ∧ decStep s ch = { s with pad := s.pad + 1 } ∨
    decStep s ch = { s with err := true } ∨
    (a2b ch).toNat < 64 ∧ s.pad = 0 ∧ decStep s ch = valStep s (a2b ch) := by
  by_cases c1 : a2b ch = IGN
  · exact .inl ⟨c1, decStep_ign s ch c1⟩
  by_cases c2 : a2b ch = PAD ∧ s.pad < 2
  · obtain rfl := (a2b_spec ch).1.mp c2.1
    exact .inr (.inl ⟨rfl, c2.2, decStep_pad s c2.2⟩)
  by_cases c3 : a2b ch = ERR ∨ s.pad > 0
  · exact .inr (.inr (.inl (by rw [decStep_eq, if_neg c1, if_neg c2, if_pos c3])))
  have hp : s.pad = 0 := Nat.eq_zero_of_not_pos fun h => c3 (.inr h)
  rcases a2b_class ch with h | h | h | h
  · exact .inr (.inr (.inr ⟨h, hp, decStep_val s ch h hp⟩))
  · exact absurd h c1
  · exact absurd ⟨h, by omega⟩ c2
  · exact absurd (.inl h) c3

theorem decLoop_cons_ok (s : DecSt) (ch : UInt8) (rest : List UInt8) (h : (decStep s ch).err = false) :
    decLoop s (ch :: rest) = decLoop (decStep s ch) rest := by
  simp [decLoop, h]

theorem decLoop_append (a b : List UInt8) (s : DecSt) (hs : s.err = false) :
    decLoop s (a ++ b) = if (decLoop s a).err then decLoop s a else decLoop (decLoop s a) b := by
  fun_induction decLoop s a with
  | case1 s => simp [hs]
  | case2 s ch rest s' e => rw [List.cons_append, decLoop, if_pos e, if_pos e]
  | case3 s ch rest s' e ih => rw [List.cons_append, decLoop, if_neg e]; exact ih (by simpa using e)

theorem decLoop_sextet (s : DecSt) (v : UInt8) (rest : List UInt8) (hv : v.toNat < 64) (hp : s.pad = 0)
    (he : s.err = false) : decLoop s (b2a v :: rest) = decLoop (valStep s v) rest := by
  have h := decStep_val s (b2a v) (by rwa [a2b_b2a v hv]) hp
  rw [a2b_b2a v hv] at h
  rw [decLoop_cons_ok _ _ _ (by rw [h, (valStep_ctl s v).2.1, he]), h]

theorem decLoop_pad (s : DecSt) (rest : List UInt8) (h : s.pad < 2) (he : s.err = false) :
    decLoop s (61 :: rest) = decLoop { s with pad := s.pad + 1 } rest := by
  rw [decLoop, decStep_pad s h]; simp [he]

theorem decLoop_encode (x : List UInt8) : ∀ (out : List UInt8) (cur : UInt8),
    let s' := decLoop { i := 0, pad := 0, out := out, cur := cur, err := false } (encodeBlock x)
    s'.err = false ∧ (s'.i + s'.pad) % 4 = 0 ∧ s'.out = out ++ x := by
  fun_induction encodeBlock x with
  | case1 a b c rest ih =>
    intro out cur
    -- a quantum: its four sextets write `a b c` (`octet_a` .. `octet_c`) and bring `i` back to 0
    simpa [decLoop_sextet, valStep, sx0_lt, sx1_lt, sx2_lt, sx3_lt, octet_a, octet_b, octet_c] using
      ih (out ++ [a, b, c]) (dc2b (sx2 b c))
  -- the tails: a quantum whose missing octets are 0 (`sx2'_eq`, `sx1'_eq`), cut short by the pads
  | case2 a b =>
    simp [decLoop_sextet, valStep, decLoop_pad, PADCHAR, sx2'_eq, sx0_lt, sx1_lt, sx2_lt, octet_a, octet_b, decLoop.eq_1]
  | case3 a => simp [decLoop_sextet, valStep, decLoop_pad, PADCHAR, sx1'_eq, sx0_lt, sx1_lt, octet_a, decLoop.eq_1]
  | case4 => simp [decLoop]

theorem encodeBlock_length (x : List UInt8) : (encodeBlock x).length = (x.length + 2) / 3 * 4 := by
  fun_induction encodeBlock x with
  | case1 a b c rest ih => simp only [List.length_cons, ih]; omega
  | case2 a b => simp
  | case3 a => simp
  | case4 => simp

theorem encodeBlock_append (p q : List UInt8) (h : p.length % 3 = 0) :
    encodeBlock (p ++ q) = encodeBlock p ++ encodeBlock q := by
  fun_induction encodeBlock p with
  | case1 a b c rest ih =>
    have : rest.length % 3 = 0 := by simp only [List.length_cons] at h; omega
    simp [encodeBlock, ih this]
  | case2 a b => simp at h
  | case3 a => simp at h
  | case4 => simp

theorem encodeBlock_take_drop (l : List UInt8) :
    encodeBlock (l.take (l.length / 3 * 3)) ++ encodeBlock (l.drop (l.length / 3 * 3)) = encodeBlock l := by
  rw [← encodeBlock_append, List.take_append_drop]
  rw [List.length_take]; omega

/-- the guard `srclen >= 3` around the whole-triples step is redundant: below 3 there are no whole triples -/
theorem whole3_guard (l : List UInt8) :
    (if l.length ≥ 3 then encodeBlock (l.take (l.length / 3 * 3)) else []) = encodeBlock (l.take (l.length / 3 * 3)) ∧
    (if l.length ≥ 3 then l.drop (l.length / 3 * 3) else l) = l.drop (l.length / 3 * 3) := by
  by_cases h : l.length ≥ 3
  · simp [h]
  · have : l.length / 3 * 3 = 0 := by omega
    simp [h, this, encodeBlock]

theorem whole3_append (A B : List UInt8) (h : A.length % 3 = 0) :
    (A ++ B).take ((A ++ B).length / 3 * 3) = A ++ B.take (B.length / 3 * 3) ∧
    (A ++ B).drop ((A ++ B).length / 3 * 3) = B.drop (B.length / 3 * 3) := by
  have : (A ++ B).length / 3 * 3 = A.length + B.length / 3 * 3 := by rw [List.length_append]; omega
  rw [this, List.take_length_add_append, List.drop_length_add_append]
  exact ⟨rfl, rfl⟩

theorem encodeUpdate_spec (x : EncCtx) (src : List UInt8) (h : x.buf.length < 3) :
    encodeUpdate x src =
      ({ buf := (x.buf ++ src).drop ((x.buf ++ src).length / 3 * 3) },
       encodeBlock ((x.buf ++ src).take ((x.buf ++ src).length / 3 * 3))) := by
  obtain ⟨buf⟩ := x
  simp only at h
  unfold encodeUpdate
  by_cases h0 : src.length = 0
  · have : src = [] := List.eq_nil_of_length_eq_zero h0
    subst this
    have : buf.length / 3 * 3 = 0 := by omega
    simp [this, encodeBlock]
  simp only [h0, if_false, (whole3_guard _).1, (whole3_guard _).2]
  by_cases hf : buf.length > 0 ∧ src.length ≥ 3 - buf.length
  · -- the carry is completed to a triple `A`; the rest of `src` follows it
    have hA : (buf ++ src.take (3 - buf.length)).length = 3 := by
      rw [List.length_append, List.length_take]; omega
    obtain ⟨e1, e2⟩ := whole3_append _ (src.drop (3 - buf.length)) (by rw [hA])
    rw [List.append_assoc, List.take_append_drop] at e1 e2
    simp only [hf, and_self, if_true, List.nil_append, e1, e2, encodeBlock_append _ _ (by rw [hA] : _ % 3 = 0)]
  · simp only [hf, if_false, List.nil_append]
    by_cases hb : buf.length = 0
    · have : buf = [] := List.eq_nil_of_length_eq_zero hb
      subst this
      simp
    · have hs : src.length / 3 * 3 = 0 := by omega
      have ht : (buf.length + src.length) / 3 * 3 = 0 := by omega
      simp [hs, ht]

/-- the guard `num > 0` of `base64_encode_final` is redundant as well -/
theorem encodeFinal_eq (x : EncCtx) : encodeFinal x = encodeBlock x.buf := by
  unfold encodeFinal
  split
  · rfl
  · rw [List.eq_nil_of_length_eq_zero (by omega : x.buf.length = 0)]; rfl

/-- the step of the fold that `encodeChunks` is -/
def encFold : EncCtx × List UInt8 → List UInt8 → EncCtx × List UInt8 :=
  fun (acc : EncCtx × List UInt8) ch =>
    let (x', o) := encodeUpdate acc.1 ch; (x', acc.2 ++ o)

theorem encodeChunks_eq (chunks : List (List UInt8)) :
    encodeChunks chunks = (chunks.foldl encFold ({}, [])).2 ++ encodeFinal (chunks.foldl encFold ({}, [])).1 := rfl

theorem encFold_spec (chunks : List (List UInt8)) (x : EncCtx) (o : List UInt8) (h : x.buf.length < 3) :
    (chunks.foldl encFold (x, o)).2 ++ encodeFinal (chunks.foldl encFold (x, o)).1
      = o ++ encodeBlock (x.buf ++ chunks.flatten) := by
  induction chunks generalizing x o with
  | nil => simp only [List.foldl_nil, List.flatten_nil, List.append_nil, encodeFinal_eq]
  | cons ch rest ih =>
    have e : encFold (x, o) ch =
        ({ buf := (x.buf ++ ch).drop ((x.buf ++ ch).length / 3 * 3) },
          o ++ encodeBlock ((x.buf ++ ch).take ((x.buf ++ ch).length / 3 * 3))) := by
      simp only [encFold, encodeUpdate_spec x ch h]
    rw [List.foldl_cons, e, ih _ _ (by simp only [List.length_drop]; omega), List.flatten_cons, List.append_assoc,
      ← encodeBlock_append _ _ (by rw [List.length_take]; omega), ← List.append_assoc (List.take _ _),
      List.take_append_drop, List.append_assoc]

/-- The write bound as an account in quarter bytes: each character pays in 3, each byte written takes out 4, and
    `(4 - i) % 4` is what the `i` characters of the open quantum have paid in and not yet spent. -/
def BoundInv (s : DecSt) (n : Nat) : Prop := s.i < 4 ∧ 4 * s.out.length + (4 - s.i) % 4 ≤ 3 * n

theorem BoundInv.mono {s : DecSt} {n m : Nat} (h : BoundInv s n) (hnm : n ≤ m) : BoundInv s m :=
  ⟨h.1, Nat.le_trans h.2 (Nat.mul_le_mul_left 3 hnm)⟩

theorem valStep_bound (s : DecSt) (c : UInt8) (n : Nat) (h : BoundInv s n) : BoundInv (valStep s c) (n + 1) := by
  obtain ⟨i, pad, out, cur, err⟩ := s
  obtain ⟨hi, h1⟩ := h
  match i, hi with
  | 0, _ | 1, _ | 2, _ | 3, _ =>
    simp only [BoundInv, valStep, List.length_append, List.length_cons, List.length_nil] at h1 ⊢; omega

theorem decStep_bound (s : DecSt) (ch : UInt8) (n : Nat) (h : BoundInv s n) :
    BoundInv (decStep s ch) (n + 1) := by
  -- only a sextet moves `i` or `out`
  have h' : BoundInv s (n + 1) := h.mono (Nat.le_succ n)
  rcases decStep_cases s ch with ⟨-, e⟩ | ⟨-, -, e⟩ | e | ⟨-, -, e⟩ <;> rw [e]
  · exact h'
  · exact h'
  · exact h'
  · exact valStep_bound s _ n h

theorem decLoop_bound (l : List UInt8) (s : DecSt) (n : Nat) (h : BoundInv s n) :
    BoundInv (decLoop s l) (n + l.length) := by
  fun_induction decLoop s l generalizing n with
  | case1 s => exact h
  | case2 s ch rest s' e =>
    exact (decStep_bound s ch n h).mono (by rw [List.length_cons]; omega)
  | case3 s ch rest s' e ih =>
    rw [List.length_cons, Nat.add_comm rest.length, ← Nat.add_assoc]
    exact ih _ (decStep_bound s ch n h)

theorem decodeBlock_out_bound (src : List UInt8) :
    (decodeBlock src).2.length ≤ (src.length + 3) / 4 * 3 := by
  obtain ⟨-, h⟩ := decLoop_bound src {} 0 ⟨by decide, by decide⟩
  simp only [decodeBlock]
  omega

theorem decLoop_filter (l : List UInt8) (s : DecSt) (hs : s.err = false) :
    decLoop s l = decLoop s (l.filter (fun ch => a2b ch != IGN)) := by
  induction l generalizing s with
  | nil => rfl
  | cons ch rest ih =>
    rw [List.filter_cons]
    by_cases c : a2b ch = IGN
    · rw [decLoop_cons_ok _ _ _ (by rwa [decStep_ign _ _ c]), decStep_ign _ _ c, if_neg (by simp [c])]
      exact ih s hs
    · rw [if_pos (by simpa using c), decLoop, decLoop]
      by_cases e : (decStep s ch).err = true
      · rw [if_pos e, if_pos e]
      · rw [if_neg e, if_neg e]; exact ih _ (by simpa using e)

theorem decLoop_body (body : List UInt8) (s : DecSt) (hb : ∀ ch ∈ body, (a2b ch).toNat < 64) (hp : s.pad = 0)
    (he : s.err = false) (hi : s.i < 4) :
    (decLoop s body).pad = 0 ∧ (decLoop s body).err = false ∧ (decLoop s body).i = (s.i + body.length) % 4 := by
  induction body generalizing s with
  | nil => exact ⟨hp, he, (Nat.mod_eq_of_lt hi).symm⟩
  | cons ch body ih =>
    obtain ⟨k1, k2, k3⟩ := valStep_ctl s (a2b ch)
    rw [← decStep_val s ch (hb ch List.mem_cons_self) hp] at k1 k2 k3
    rw [hp] at k1
    rw [he] at k2
    rw [decLoop_cons_ok _ _ _ k2]
    obtain ⟨e2, e3, e4⟩ := ih (decStep s ch) (fun c hc => hb c (List.mem_cons_of_mem _ hc)) k1 k2 (by omega)
    exact ⟨e2, e3, by rw [e4, k3 hi, List.length_cons]; omega⟩

theorem decLoop_pads (p : Nat) (s : DecSt) (h : s.pad + p ≤ 2) (he : s.err = false) :
    decLoop s (List.replicate p 61) = { s with pad := s.pad + p } := by
  induction p generalizing s with
  | zero => rfl
  | succ p ih =>
    rw [List.replicate_succ, decLoop_pad s _ (by omega) he, ih { s with pad := s.pad + 1 } (by simp only; omega) he]
    simp only [Nat.add_assoc, Nat.add_comm 1]

/-- abstract well-formedness, phrased with the decoder's own classification table (`C19.WellFormed` says the same with
    `isspace` and the RFC alphabet) -/
def WF (src : List UInt8) : Prop :=
  ∃ (body : List UInt8) (p : Nat),
    src.filter (fun ch => a2b ch != IGN) = body ++ List.replicate p 61 ∧
    (∀ ch ∈ body, (a2b ch).toNat < 64) ∧ p ≤ 2 ∧ (body.length + p) % 4 = 0

/-- The clause `0 < s.pad → body = []` carries the induction past the point where the padding begins. -/
theorem decLoop_shape (l : List UInt8) (s : DecSt) (hl : ∀ ch ∈ l, a2b ch ≠ IGN) (hp : s.pad ≤ 2)
    (hfin : (decLoop s l).err = false) :
    ∃ (body : List UInt8) (p : Nat), l = body ++ List.replicate p 61 ∧
      (∀ ch ∈ body, (a2b ch).toNat < 64) ∧ (0 < s.pad → body = []) ∧ s.pad + p ≤ 2 := by
  fun_induction decLoop s l with
  | case1 s => exact ⟨[], 0, rfl, nofun, fun _ => rfl, hp⟩
  | case2 s ch rest s' e => exact absurd (e.symm.trans hfin) (by decide)
  | case3 s ch rest s' e ih =>
    have hl' : ∀ c ∈ rest, a2b c ≠ IGN := fun c hc => hl c (List.mem_cons_of_mem _ hc)
    rcases decStep_cases s ch with ⟨h, -⟩ | ⟨rfl, hp2, k⟩ | k | ⟨hv, hp0, k⟩
    · exact absurd h (hl ch List.mem_cons_self)
    · have k1 : s'.pad = s.pad + 1 := by rw [show s' = _ from k]
      obtain ⟨body, p, r1, r2, r3, r4⟩ := ih hl' (by omega) hfin
      obtain rfl : body = [] := r3 (by omega)
      exact ⟨[], p + 1, by rw [r1]; rfl, r2, fun _ => rfl, by omega⟩
    · exact absurd (congrArg DecSt.err k) e
    · have k1 : s'.pad = 0 := by rw [show s' = _ from k, (valStep_ctl s _).1, hp0]
      obtain ⟨body, p, r1, r2, -, r4⟩ := ih hl' (by omega) hfin
      exact ⟨ch :: body, p, by rw [r1]; rfl, List.forall_mem_cons.mpr ⟨hv, r2⟩, fun h => absurd hp0 (by omega),
        by omega⟩

theorem decodeBlock_ok (src : List UInt8) : (decodeBlock src).1 = 0 ↔
    (decLoop {} src).err = false ∧ ((decLoop {} src).i + (decLoop {} src).pad) % 4 = 0 := by
  simp only [decodeBlock]
  simp

theorem decodeBlock_strict (src : List UInt8) : (decodeBlock src).1 = 0 ↔ WF src := by
  rw [decodeBlock_ok, decLoop_filter src {} rfl]
  have run (body : List UInt8) (p : Nat) (hb : ∀ ch ∈ body, (a2b ch).toNat < 64) (hp : p ≤ 2) :
      (decLoop {} (body ++ List.replicate p 61)).err = false ∧
      (decLoop {} (body ++ List.replicate p 61)).i = body.length % 4 ∧
      (decLoop {} (body ++ List.replicate p 61)).pad = p := by
    obtain ⟨e2, e3, e4⟩ := decLoop_body body {} hb rfl rfl (by decide)
    rw [decLoop_append _ _ _ rfl, e3, if_neg (by decide), decLoop_pads p _ (by omega) e3]
    simp [e2, e3, e4]
  constructor
  · rintro ⟨h1, h2⟩
    obtain ⟨body, p, r1, r2, -, r4⟩ :=
      decLoop_shape _ {} (by intro ch hc; simpa using (List.mem_filter.mp hc).2) (by decide) h1
    have r4 : p ≤ 2 := by simpa using r4
    obtain ⟨-, ei, ep⟩ := run body p r2 r4
    rw [r1, ei, ep] at h2
    exact ⟨body, p, r1, r2, r4, by omega⟩
  · rintro ⟨body, p, r1, r2, r3, r4⟩
    obtain ⟨e, ei, ep⟩ := run body p r2 r3
    rw [r1, e, ei, ep]
    exact ⟨rfl, by omega⟩

/-- the decoder only appends to `out` and never reads it -/
def DecSt.shift (o : List UInt8) (s : DecSt) : DecSt := { s with out := o ++ s.out }

theorem DecSt.shift_err (o : List UInt8) (s : DecSt) : (s.shift o).err = s.err := rfl

theorem valStep_shift (o : List UInt8) (s : DecSt) (c : UInt8) : valStep (s.shift o) c = (valStep s c).shift o := by
  obtain ⟨i, pad, out, cur, err⟩ := s
  match i with
  | 0 | 1 | 2 | _ + 3 => simp only [valStep, DecSt.shift, List.append_assoc]

theorem decStep_shift (o : List UInt8) (s : DecSt) (ch : UInt8) :
    decStep (s.shift o) ch = (decStep s ch).shift o := by
  rw [decStep_eq, decStep_eq, valStep_shift]
  -- the tests read only `pad`, which `shift` leaves alone, and `shift` goes into each branch
  simp only [apply_ite (DecSt.shift o)]
  rfl

theorem decLoop_shift (o : List UInt8) (l : List UInt8) (s : DecSt) :
    decLoop (s.shift o) l = (decLoop s l).shift o := by
  fun_induction decLoop s l with
  | case1 s => rfl
  | case2 s ch rest s' e => rw [decLoop, decStep_shift, DecSt.shift_err, if_pos e]
  | case3 s ch rest s' e ih => rw [decLoop, decStep_shift, DecSt.shift_err, if_neg e, ih]

/-- The step of the streaming decode over chunks (stop at the first error), letter for letter as the statement of
    `C19.decode_chunking` writes it out; its proof gets at this name by `show`. -/
def decFold : DecCtx × List UInt8 × Bool → List UInt8 → DecCtx × List UInt8 × Bool :=
  fun (acc : DecCtx × List UInt8 × Bool) ch =>
      if acc.2.2 then acc else
      let (rc, o, x') := decodeUpdate acc.1 ch
      (x', acc.2.1 ++ o, rc != 0)

theorem foldl_decFold_err (chunks : List (List UInt8)) (x : DecCtx) (o : List UInt8) :
    chunks.foldl decFold (x, o, true) = (x, o, true) := by
  induction chunks with
  | nil => rfl
  | cons ch rest ih => rw [List.foldl_cons, show decFold (x, o, true) ch = (x, o, true) from rfl, ih]

theorem foldl_decFold (chunks : List (List UInt8)) : ∀ (x : DecCtx) (o : List UInt8),
    chunks.foldl decFold (x, o, false) =
      (let s := decLoop { i := x.num, pad := x.pad, cur := x.buf0, out := o } chunks.flatten
       ({ num := s.i, pad := s.pad, buf0 := s.cur }, s.out, s.err)) := by
  induction chunks with
  | nil => intro x o; rfl
  | cons ch rest ih =>
    intro x o
    have hstep : decFold (x, o, false) ch =
        (let s := decLoop { i := x.num, pad := x.pad, cur := x.buf0, out := o } ch
         ({ num := s.i, pad := s.pad, buf0 := s.cur }, s.out, s.err)) := by
      have := decLoop_shift o ch { i := x.num, pad := x.pad, cur := x.buf0 }
      simp only [DecSt.shift, List.append_nil] at this
      simp only [decFold, decodeUpdate, this]
      cases (decLoop { i := x.num, pad := x.pad, cur := x.buf0 } ch).err <;> simp
    rw [List.foldl_cons, hstep, List.flatten_cons, decLoop_append _ _ _ rfl]
    generalize decLoop { i := x.num, pad := x.pad, cur := x.buf0, out := o } ch = s1
    obtain ⟨i, pad, out, cur, err⟩ := s1
    cases err
    · exact ih _ _
    · exact foldl_decFold_err _ _ _

end Munge.Base64
