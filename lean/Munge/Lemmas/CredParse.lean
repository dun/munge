import Munge.Lemmas.Bytes
import Munge.Model.PrimLaws
/-
The two credential parsers, `unpackOuter` (dec_unpack_outer) and `unpackInner` (dec_unpack_inner).

Each is specified once, by one walk along its statements: it never reads outside the buffer, an error it raises is a
hard one, and a successful parse writes only the fields named in `OuterPost` / `InnerPost`.  The walk uses one step lemma
per kind of statement (`PR.post_guard`, `_byteAt`, `_takeN`, `_take32`).  The step lemmas hand the continuation fresh
variables for what was read, with the length facts only: the terms themselves (`rd32 (b.take 4)`, `b.drop 4`) are not
needed by the postcondition and would be carried, nested, through every later field.

The second half evaluates the parsers on a buffer that begins with what the packers write.
-/
namespace Munge.Cred
open Munge.Gen.Dec Munge.C

/-- an error code other than the three with which a decode still discloses the credential's fields
    (expired, rewound, replayed) -/
def Hard (e : Int) : Prop := 0 < e ∧ e ≠ 15 ∧ e ≠ 16 ∧ e ≠ 17
instance (e : Int) : Decidable (Hard e) := by unfold Hard; infer_instance

/-- success or one of those three codes (`C02.discloses` and `C09.soft` are this predicate) -/
def Soft (e : Nat) : Prop :=
  e = 0 ∨ (e : Int) = EMUNGE_CRED_EXPIRED ∨ (e : Int) = EMUNGE_CRED_REWOUND ∨ (e : Int) = EMUNGE_CRED_REPLAYED
instance (e : Nat) : Decidable (Soft e) := by unfold Soft; infer_instance

theorem Hard.not_soft {e : Nat} (h : Hard e) : ¬ Soft e := by
  unfold Hard at h
  unfold Soft EMUNGE_CRED_EXPIRED EMUNGE_CRED_REWOUND EMUNGE_CRED_REPLAYED
  omega

def PR.post {α : Type} (p : α → Prop) : PR α → Prop
  | .ok a => p a
  | .err e => Hard e.1
  | .oob => False

theorem PR.post_guard {α : Type} {p : α → Prop} {c : Prop} [Decidable c] {e : Int} {w : String} {x : PR α}
    (he : Hard e) (hx : ¬ c → x.post p) : (if c then .err (e, w) else x).post p := by
  split
  · exact he
  · exact hx ‹_›

theorem PR.post_byteAt {α : Type} {p : α → Prop} {b : Bytes} {i : Nat} {k : UInt8 → PR α}
    (h : i < b.length) (hk : ∀ v, (k v).post p) :
    PR.post p (match byteAt b i with | none => PR.oob | some v => k v) := by
  rw [byteAt_some h]; exact hk _

theorem PR.post_takeN {α : Type} {p : α → Prop} {b : Bytes} {n : Nat} {k : Bytes → Bytes → PR α}
    (h : n ≤ b.length) (hk : ∀ x r, x.length = n → r.length + n = b.length → (k x r).post p) :
    PR.post p (match takeN b n with | none => PR.oob | some (x, r) => k x r) := by
  rw [takeN_some h]
  exact hk _ _ (by rw [List.length_take]; omega) (by rw [List.length_drop]; omega)

theorem PR.post_take32 {α : Type} {p : α → Prop} {b : Bytes} {w : String} {k : Nat → Bytes → PR α}
    (hk : ∀ v r, r.length + 4 = b.length → (k v r).post p) :
    PR.post p (match take32 b w with | .oob => PR.oob | .err e => PR.err e | .ok (v, r) => k v r) := by
  rw [take32_eq]
  by_cases h : 4 > b.length
  · rw [if_pos h]; show Hard EMUNGE_BAD_CRED; decide
  · rw [if_neg h]; exact hk _ _ (by rw [List.length_drop]; omega)

theorem PR.post_ne_oob {α : Type} {p : α → Prop} {r : PR α} (h : r.post p) : r ≠ .oob := by
  intro e; subst e; exact h

theorem PR.post_ok {α : Type} {p : α → Prop} {r : PR α} {a : α} (h : r.post p) (e : r = .ok a) : p a := by
  subst e; exact h

/-- `PR.post` with any positive error code allowed -/
def PR.sat {α : Type} (p : α → Prop) : PR α → Prop
  | .ok a => p a
  | .err e => 0 < e.1
  | .oob => False

theorem PR.sat_err {α : Type} {p : α → Prop} {r : PR α} {e : Int × String} (h : r.sat p) (he : r = .err e) : 0 < e.1 := by
  subst he; exact h

/-- what a successful `unpackOuter` leaves in the message: only the five header fields are written (`frame`) -/
structure OuterPost (P : Prims) (m : Msg) (r : Msg × Scratch) : Prop where
  frame : r.1 = { m with cipher := r.1.cipher, mac := r.1.mac, zip := r.1.zip, realm := r.1.realm, realmLen := r.1.realmLen }
  macValid : P.macValid r.1.mac = true
  realm : r.1.realmLen ≤ r.1.realm.length

theorem unpackOuter_spec (P : Prims) (m : Msg) (buf : Bytes) : (unpackOuter P m buf).post (OuterPost P m) := by
  unfold unpackOuter
  refine PR.post_guard (by decide) fun h0 => ?_
  refine PR.post_byteAt (by omega) fun ver => ?_
  refine PR.post_guard (by decide) fun _ => ?_
  refine PR.post_guard (by decide) fun h1 => ?_
  refine PR.post_byteAt (by omega) fun cb => ?_
  refine PR.post_guard (by decide) fun _ => ?_
  refine PR.post_guard (by decide) fun hiv => ?_
  refine PR.post_guard (by decide) fun h2 => ?_
  refine PR.post_byteAt (by omega) fun mb => ?_
  refine PR.post_guard (by decide) fun hmv => ?_
  refine PR.post_guard (by decide) fun hml => ?_
  refine PR.post_guard (by decide) fun _ => ?_
  refine PR.post_guard (by decide) fun h3 => ?_
  refine PR.post_byteAt (by omega) fun zb => ?_
  refine PR.post_guard (by decide) fun _ => ?_
  refine PR.post_guard (by decide) fun h4 => ?_
  refine PR.post_byteAt (by omega) fun rb => ?_
  refine PR.post_guard (by decide) fun hr => ?_
  refine PR.post_takeN (by omega) fun realm rest hrl l1 => ?_
  refine PR.post_guard (by decide) fun hi => ?_
  refine PR.post_takeN (by omega) fun iv rest _ l2 => ?_
  refine PR.post_guard (by decide) fun hm => ?_
  refine PR.post_takeN (by omega) fun macv inner _ _ => ?_
  split
  · exact ⟨rfl, Decidable.not_not.mp hmv, by simp only [List.length_append, List.length_singleton]; omega⟩
  · exact ⟨rfl, Decidable.not_not.mp hmv, by dsimp only; omega⟩

/-- what a successful `unpackInner` of `buf` leaves in the message: only the ten fields of the inner layer are written
    (`frame`), and the payload is `dataLen` bytes out of `buf` -/
structure InnerPost (m : Msg) (buf : Bytes) (r : Msg) : Prop where
  frame : r = { m with addrLen := r.addrLen, addr := r.addr, time0 := r.time0, ttl := r.ttl, credUid := r.credUid,
                       credGid := r.credGid, authUid := r.authUid, authGid := r.authGid, dataLen := r.dataLen, data := r.data }
  addr : r.addrLen ≤ r.addr.length
  data : r.data.length = r.dataLen
  fits : r.dataLen ≤ buf.length

theorem unpackInner_spec (m : Msg) (buf : Bytes) : (unpackInner m buf).post (InnerPost m buf) := by
  unfold unpackInner
  refine PR.post_guard (by decide) fun h0 => ?_
  refine PR.post_takeN (by omega) fun _ rest _ l0 => ?_
  refine PR.post_guard (by decide) fun h1 => ?_
  refine PR.post_byteAt (by omega) fun ab => ?_
  refine PR.post_guard (by decide) fun h2 => ?_
  refine PR.post_guard (by decide) fun h3 => ?_
  refine PR.post_takeN (by omega) fun a rest ha la => ?_
  refine PR.post_take32 fun _ rest l1 => ?_
  refine PR.post_take32 fun _ rest l2 => ?_
  refine PR.post_take32 fun _ rest l3 => ?_
  refine PR.post_take32 fun _ rest l4 => ?_
  refine PR.post_take32 fun _ rest l5 => ?_
  refine PR.post_take32 fun _ rest l6 => ?_
  refine PR.post_take32 fun dl rest l7 => ?_
  refine PR.post_guard (by decide) fun hd => ?_
  refine PR.post_takeN (by omega) fun d _ hdl _ => ?_
  simp only [List.length_drop] at la
  refine ⟨rfl, ?_, hdl, ?_⟩
  · dsimp only; split
    · omega
    · simp only [List.length_cons, List.length_nil]; omega
  · dsimp only; omega

theorem unpackOuter_pack (P : Prims) (L : PrimLaws P) (m : Msg) (c mc z : Nat) (realm iv macv inner : Bytes)
    (hc : c < 256) (hmc : mc < 256) (hz : z < 256) (hr : realm.length < 255)
    (hcv : c = 0 ∨ P.cipherValid c = true) (hmv : P.macValid mc = true) (hk : P.keyLen c ≤ P.macLen mc)
    (hzv : z = 0 ∨ P.zipValid z = true)
    (hiv : (iv.length : Int) = if c = 0 then 0 else P.ivLen c)
    (hmac : (macv.length : Int) = P.macLen mc) :
    unpackOuter P m ([3, UInt8.ofNat c, UInt8.ofNat mc, UInt8.ofNat z, UInt8.ofNat realm.length] ++ realm ++ iv ++ macv ++ inner) =
      .ok ({ m with cipher := c, mac := mc, zip := z, realm := if realm.length > 0 then realm ++ [0] else m.realm,
                    realmLen := if realm.length > 0 then (realm.length + 1) % 256 else realm.length },
           { outer := [3, UInt8.ofNat c, UInt8.ofNat mc, UInt8.ofNat z, UInt8.ofNat realm.length] ++ realm ++ iv,
             mac := macv, inner := inner, iv := iv, macLen := macv.length }) := by
  have hml := L.macLen_range mc hmv
  unfold unpackOuter
  -- the five header bytes are read off the literal; then one `if_neg` per guard of `unpackOuter`, in source order; each
  -- `takeN` is `takeN_append`, and the `dsimp only` after it reduces the `match` on its result
  simp only [List.cons_append, List.nil_append, List.length_cons, byteAt, List.getElem?_cons_zero, List.getElem?_cons_succ,
    UInt8.toNat_ofNat_of_lt' hc, UInt8.toNat_ofNat_of_lt' hmc, UInt8.toNat_ofNat_of_lt' hz, UInt8.toNat_ofNat_of_lt' (show realm.length < 256 by omega),
    List.drop_succ_cons, List.drop_zero, ← hiv, ← hmac, Int.toNat_natCast, List.append_assoc]
  rw [if_neg (by omega), if_neg (by decide), if_neg (by omega),
    if_neg (by rcases hcv with h | h <;> simp [h]), if_neg (by omega), if_neg (by omega),
    if_neg (by simp [hmv]), if_neg (by omega), if_neg (by omega), if_neg (by omega),
    if_neg (by rcases hzv with h | h <;> simp [h]), if_neg (by omega),
    if_neg (by simp only [List.length_append]; omega)]
  rw [takeN_append _ _ _ rfl]
  dsimp only
  rw [if_neg (by simp only [List.length_append]; omega), takeN_append _ _ _ rfl]
  dsimp only
  rw [if_neg (by simp only [List.length_append]; omega), takeN_append _ _ _ rfl]
  -- `outer` is the buffer without MAC and inner layer: its first 5 + |realm ‖ iv| bytes
  have : (realm ++ (iv ++ (macv ++ inner))).length + 1 + 1 + 1 + 1 + 1 - (macv ++ inner).length = (realm ++ iv).length + 1 + 1 + 1 + 1 + 1 := by
    simp only [List.length_append]; omega
  rw [this]
  simp only [List.take_succ_cons, ← List.append_assoc]
  rw [List.append_assoc (realm ++ iv), List.take_left' rfl]
  by_cases h : realm.length > 0
  · simp only [h, if_true]
  · simp only [h, if_false]

theorem unpackInner_pack (m : Msg) (salt addr payload : Bytes) (t0 ttl uid gid au ag : Nat)
    (hs : salt.length = 8) (ha : addr.length = 4 ∨ addr.length = 0)
    (h0 : t0 < 4294967296) (h1 : ttl < 4294967296) (h2 : uid < 4294967296) (h3 : gid < 4294967296)
    (h4 : au < 4294967296) (h5 : ag < 4294967296) (h6 : payload.length < 4294967296) :
    unpackInner m (salt ++ [UInt8.ofNat addr.length] ++ addr ++ be32 t0 ++ be32 ttl ++ be32 uid ++ be32 gid ++
        be32 au ++ be32 ag ++ be32 payload.length ++ payload) =
      .ok { m with addrLen := addr.length, addr := if addr.length = 4 then addr else [0, 0, 0, 0], time0 := t0, ttl := ttl,
                   credUid := uid, credGid := gid, authUid := au, authGid := ag, dataLen := payload.length, data := payload } := by
  unfold unpackInner
  have hsl : MUNGE_CRED_SALT_LEN.toNat = 8 := rfl
  simp only [List.append_assoc, hsl]
  rw [if_neg (by simp only [List.length_append]; omega), takeN_append _ _ _ hs]
  simp only [List.cons_append, List.nil_append, List.length_cons, byteAt, List.getElem?_cons_zero, List.drop_succ_cons, List.drop_zero,
    UInt8.toNat_ofNat_of_lt' (show addr.length < 256 by omega)]
  rw [if_neg (by omega), if_neg (by simp only [List.length_append]; omega), if_neg (by omega), takeN_append _ _ _ rfl]
  simp only [take32_be32 _ h0, take32_be32 _ h1, take32_be32 _ h2, take32_be32 _ h3, take32_be32 _ h4, take32_be32 _ h5,
    take32_be32 _ h6]
  rw [if_neg (by omega), takeN_some (Nat.le_refl _), List.take_length, List.drop_length]

theorem zipLength_header (n : Nat) (h : n < 2147483648) (x : Bytes) :
    zipLength (be32 3402287818 ++ be32 n ++ x) = n := by
  unfold zipLength
  have hz : ZIP_MAGIC.toNat = 3402287818 := rfl
  rw [if_neg (by simp only [List.length_append, C.be32_length]; omega), List.append_assoc, take_be32_append, drop_be32_append,
    take_be32_append, rd32_be32 _ (by omega), rd32_be32 _ (by omega), hz]
  simp only [ne_eq, not_true_eq_false, if_false]
  unfold wrapS32; omega

end Munge.Cred
