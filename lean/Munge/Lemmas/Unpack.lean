import Munge.Lemmas.Bytes
import Munge.Gen.Unpack
import Munge.Lemmas.Kernel
/-
The hand-written credential parsers (`Cred.unpackOuter`, `Cred.unpackInner`) refine the kernels translated from dec.c
(`Gen.Unpack.dec_unpack_outer`, `dec_unpack_inner`).

Model and kernel make the same tests in the same order, so the proofs walk down both at once.  One lemma per kind of
parsing step (instances of `ite_ref`) relates the model's step to the kernel's `if` and hands the continuation the
invariant `Cursor`.  The arithmetic of the 32-bit `len -= n` is done once, in `Cursor.advance`; at a call site the
kernel's test is compared by `omega` with the test the step lemma expects, so it may be written either way round in the C.
-/
namespace Munge.Unpack
open Munge.C Munge.Cred Munge.Gen.Unpack

theorem rdU8_bufOf {b : Bytes} {i : Nat} {j : Int} (hj : j = i) (h : i < b.length) : rdU8 (bufOf b) j = b[i].toNat := by
  have hb : b[i].toNat < 256 := UInt8.toNat_lt _
  have : b.getD i 0 = b[i] := by rw [List.getD_eq_getElem?_getD, List.getElem?_eq_getElem h]; rfl
  unfold rdU8 bufOf
  rw [hj, if_neg (by omega), Int.toNat_natCast, this]; omega

theorem rd32_bufOf {b : Bytes} {k : Nat} {j : Int} (hj : j = k) (h : k + 4 ≤ b.length) :
    rdBE32 (bufOf b) j = rd32 ((b.drop k).take 4) := by
  rw [List.drop_eq_getElem_cons (by omega : k < b.length), List.drop_eq_getElem_cons (by omega : k + 1 < b.length),
    List.drop_eq_getElem_cons (by omega : k + 1 + 1 < b.length),
    List.drop_eq_getElem_cons (by omega : k + 1 + 1 + 1 < b.length)]
  unfold rdBE32
  rw [rdU8_bufOf hj (by omega), rdU8_bufOf (i := k + 1) (by omega) (by omega),
    rdU8_bufOf (i := k + 1 + 1) (by omega) (by omega), rdU8_bufOf (i := k + 1 + 1 + 1) (by omega) (by omega)]
  simp [rd32, -List.getElem_cons_drop]

/- the answers of the primitive tables, as the oracle functions of `dec_unpack_outer`, in the order of its parameters:
   `cipher_map_enum`, `cipher_iv_size`, `mac_map_enum`, `mac_size`, `cipher_key_size`, `zip_is_valid_type` -/
def cme (P : Prims) (x : Int) : Int := if P.cipherValid x.toNat then 0 else -1
def civ (P : Prims) (x : Int) : Int := P.ivLen x.toNat
def mme (P : Prims) (x : Int) : Int := if P.macValid x.toNat then 0 else -1
def ms (P : Prims) (x : Int) : Int := P.macLen x.toNat
def cks (P : Prims) (x : Int) : Int := P.keyLen x.toNat
def zv (P : Prims) (x : Int) : Int := if P.zipValid x.toNat then 1 else 0

theorem cme_neg (P : Prims) (n : Nat) : cme P (n : Int) < 0 ↔ ¬ P.cipherValid n = true := by
  unfold cme; simp only [Int.toNat_natCast]; by_cases h : P.cipherValid n = true <;> simp [h]
theorem mme_neg (P : Prims) (n : Nat) : mme P (n : Int) < 0 ↔ ¬ P.macValid n = true := by
  unfold mme; simp only [Int.toNat_natCast]; by_cases h : P.macValid n = true <;> simp [h]
theorem zv_ne (P : Prims) (n : Nat) : zv P (n : Int) ≠ 0 ↔ P.zipValid n = true := by
  unfold zv; simp only [Int.toNat_natCast]; by_cases h : P.zipValid n = true <;> simp [h]
@[simp] theorem civ_nat (P : Prims) (n : Nat) : civ P (n : Int) = P.ivLen n := by simp [civ]
@[simp] theorem ms_nat (P : Prims) (n : Nat) : ms P (n : Int) = P.macLen n := by simp [ms]
@[simp] theorem cks_nat (P : Prims) (n : Nat) : cks P (n : Int) = P.keyLen n := by simp [cks]

/-- the translated `dec_unpack_outer` run on a byte list with the tables of `P` (the allocation succeeds) -/
def kOuter (P : Prims) (buf : Bytes) : KOut :=
  dec_unpack_outer buf.length 1 (bufOf buf) (cme P) (civ P) (mme P) (ms P) (cks P) (zv P)

/-- what it means for the model's result to be the kernel's result -/
def OuterRef (m : Msg) (buf : Bytes) (k : KOut) : PR (Msg × Scratch) → Prop
  | .oob => False
  | .err e => k.ret = -1 ∧ k.err = e.1
  | .ok (m', s) =>
    k.ret = 0 ∧
    k.get "c.msg.cipher" (-1) = m'.cipher ∧ k.get "c.msg.mac" (-1) = m'.mac ∧ k.get "c.msg.zip" (-1) = m'.zip ∧
    k.get "c.msg.realm_len" (-1) = m'.realmLen ∧
    k.get "c.iv_len" (-1) = s.iv.length ∧ k.get "c.mac_len" (-1) = s.macLen ∧ s.mac.length = s.macLen ∧
    s.outer = buf.take (k.get "c.outer_len" (-1)).toNat ∧
    s.iv = (buf.take (k.get "c.outer_len" (-1)).toNat).drop ((k.get "c.outer_len" (-1)).toNat - s.iv.length) ∧
    s.mac = (buf.drop (k.get "c.outer_len" (-1)).toNat).take s.macLen ∧
    s.inner = buf.drop (k.get "c.inner.off" (-1)).toNat ∧
    m'.realm = (if 0 < (buf.getD 4 0).toNat then (buf.drop 5).take (buf.getD 4 0).toNat ++ [0] else m.realm)

theorem ite_ref {α : Type} {R : KOut → PR α → Prop} {c c' : Prop} [Decidable c] [Decidable c']
    {a b : PR α} {ka kb : KOut} (hc : c ↔ c') (ha : c → R ka a) (hb : ¬ c → R kb b) :
    R (if c' then ka else kb) (if c then a else b) :=
  ite_rel (R := fun a k => R k a) hc ha hb

variable {α : Type} {R : KOut → PR α → Prop} {p q p' q' : Prop} [Decidable p] [Decidable q] [Decidable p'] [Decidable q']
  {e : Int × String} {r : PR α} {kerr k1 k0 : KOut}

theorem ite_and_ref (hp : p ↔ p') (hq : p → (q ↔ q')) (herr : R kerr (.err e)) (h1 : p → ¬ q → R k1 r)
    (h0 : ¬ p → R k0 r) : R (if p' then if q' then kerr else k1 else k0) (if p ∧ q then .err e else r) := by
  by_cases h : p
  · rw [if_pos (hp.mp h)]
    exact ite_ref (by simp only [h, true_and]; exact hq h) (fun _ => herr) fun hpq => h1 h fun hq' => hpq ⟨h, hq'⟩
  · rw [if_neg (fun h' => h (hp.mpr h')), if_neg (fun hh => h hh.1)]; exact h0 h

theorem ite_split_ref (hp : p ↔ p') (hq : q ↔ q') (herr : R kerr (.err e)) (h1 : p → R k1 r) (h0 : ¬ p → ¬ q → R k0 r) :
    R (if p' then k1 else if q' then kerr else k0) (if ¬ p ∧ q then .err e else r) := by
  by_cases h : p
  · rw [if_pos (hp.mp h), if_neg (fun hh => hh.1 h)]; exact h1 h
  · rw [if_neg (fun h' => h (hp.mpr h'))]
    exact ite_ref (by simp only [h, not_false_eq_true, true_and]; exact hq) (fun _ => herr)
      fun hpq => h0 h fun hq' => hpq ⟨h, hq'⟩

/-- a test of the kernel that the model does not make (`malloc` does not fail here) -/
theorem ite_neg_ref (hp : ¬ p') (h : R k0 r) : R (if p' then k1 else k0) r := by rw [if_neg hp]; exact h

theorem takeN_ref {P : PR α → Prop} {rest : Bytes} {n : Nat} {f : Bytes → Bytes → PR α} (hn : n ≤ rest.length)
    (h : P (f (rest.take n) (rest.drop n))) : P (match takeN rest n with | none => .oob | some (x, r) => f x r) := by
  rw [takeN_some hn]; exact h

/-- the success leaf: the model's scratch record is the slices the kernel's offsets describe -/
theorem outerRef_ok (m : Msg) (buf : Bytes) (k : KOut) (rb niv nmac : Nat) (m' : Msg)
    (h4 : 4 < buf.length) (hrb : rb = buf[4].toNat) (hfit : 5 + rb + niv + nmac ≤ buf.length)
    (hret : k.ret = 0) (hc : k.get "c.msg.cipher" (-1) = m'.cipher) (hm : k.get "c.msg.mac" (-1) = m'.mac)
    (hz : k.get "c.msg.zip" (-1) = m'.zip) (hrl : k.get "c.msg.realm_len" (-1) = m'.realmLen)
    (hiv : k.get "c.iv_len" (-1) = niv) (hml : k.get "c.mac_len" (-1) = nmac)
    (hol : k.get "c.outer_len" (-1) = ((5 + rb + niv : Nat) : Int))
    (hio : k.get "c.inner.off" (-1) = ((5 + rb + niv + nmac : Nat) : Int))
    (hrealm : m'.realm = if 0 < rb then (buf.drop 5).take rb ++ [0] else m.realm) :
    OuterRef m buf k (.ok (m',
      { outer := List.take (buf.length - (List.drop niv (List.drop rb (List.drop 5 buf))).length) buf,
        mac := List.take nmac (List.drop niv (List.drop rb (List.drop 5 buf))),
        inner := List.drop nmac (List.drop niv (List.drop rb (List.drop 5 buf))),
        iv := List.take niv (List.drop rb (List.drop 5 buf)),
        macLen := nmac })) := by
  have hg : buf.getD 4 0 = buf[4] := by simp [List.getD_eq_getElem?_getD, List.getElem?_eq_getElem h4]
  unfold OuterRef
  simp only [hol, hio, Int.toNat_natCast, List.drop_drop, List.length_drop, List.length_take, hg, ← hrb]
  refine ⟨hret, hc, hm, hz, hrl, hiv.trans ?_, hml, ?_, ?_, ?_, trivial, trivial, hrealm⟩
  -- only `hfit` matters from here on; with the facts about `k` in sight `omega`'s proofs are dear to check
  all_goals clear hret hc hm hz hrl hiv hml hol hio hrealm hg
  · congr 1; omega
  · omega
  · congr 1; omega
  · rw [List.drop_take, (by omega : min niv (buf.length - (5 + rb)) = niv), (by omega : 5 + rb + niv - niv = 5 + rb),
      (by omega : 5 + rb + niv - (5 + rb) = niv)]

theorem t32_ref {R : KOut → PR Msg → Prop} {rest : Bytes} {w : String} {c' : Prop} [Decidable c'] {kerr kcont : KOut}
    {f : Nat → Bytes → PR Msg}
    (hc : 4 > rest.length ↔ c') (herr : R kerr (.err (Munge.Gen.Dec.EMUNGE_BAD_CRED, w)))
    (hok : ¬ 4 > rest.length → R kcont (f (rd32 (rest.take 4)) (rest.drop 4))) :
    R (if c' then kerr else kcont)
      (match take32 rest w with
       | .oob => .oob
       | .err e => .err e
       | .ok (v, r) => f v r) := by
  rw [take32_eq]
  by_cases h : 4 > rest.length
  · rw [if_pos (hc.mp h), if_pos h]; exact herr
  · rw [if_neg (fun h' => h (hc.mpr h')), if_neg h]; exact hok h

def kInner (cipher : Nat) (buf : Bytes) : KOut := dec_unpack_inner buf.length cipher (bufOf buf)

def InnerRef (buf : Bytes) (k : KOut) : PR Msg → Prop
  | .oob => False
  | .err e => k.ret = -1 ∧ k.err = e.1
  | .ok m' =>
    k.ret = 0 ∧
    k.get "c.msg.addr_len" (-1) = m'.addrLen ∧ k.get "c.msg.time0" (-1) = m'.time0 ∧ k.get "c.msg.ttl" (-1) = m'.ttl ∧
    k.get "c.msg.cred_uid" (-1) = m'.credUid ∧ k.get "c.msg.cred_gid" (-1) = m'.credGid ∧
    k.get "c.msg.auth_uid" (-1) = m'.authUid ∧ k.get "c.msg.auth_gid" (-1) = m'.authGid ∧
    k.get "c.msg.data_len" (-1) = m'.dataLen ∧
    m'.addr = (if m'.addrLen = 4 then (buf.drop 9).take 4 else [0, 0, 0, 0]) ∧
    (if 0 < m'.dataLen then k.get "c.msg.data" (-1) = 1 ∧ m'.data = (buf.drop (k.get "c.msg.data.off" (-1)).toNat).take m'.dataLen
     else k.get "c.msg.data" (-1) = 0 ∧ m'.data = [])

/-- The invariant of both parsers: the model has `rest` left to parse where the C's cursor stands at `p = buf + K` with
    `len = L` bytes left (`K`, `L` are the kernel's expressions for them). -/
def Cursor (buf rest : Bytes) (K L : Int) : Prop :=
  buf.length ≤ 2147483647 ∧ 0 ≤ K ∧ K ≤ buf.length ∧ rest = buf.drop K.toNat ∧ L = buf.length - K

variable {buf rest : Bytes} {K L d : Int} {n : Nat}

theorem Cursor.start (h : buf.length ≤ 2147483647) : Cursor buf buf 0 buf.length :=
  ⟨h, Int.le_refl 0, by omega, rfl, by omega⟩

theorem Cursor.eq_drop (h : Cursor buf rest K L) : rest = buf.drop K.toNat := h.2.2.2.1
theorem Cursor.le (h : Cursor buf rest K L) : K ≤ buf.length := h.2.2.1

theorem Cursor.len (h : Cursor buf rest K L) : L = rest.length := by
  obtain ⟨_, _, _, hr, _⟩ := h
  rw [hr, List.length_drop]; omega

/-- `p += d; len -= d` after the C's test `d > len` has failed: the `int` subtraction does not wrap.  (`Munge.C.len_step`
    is the same fact for `kcases … consuming`, by which statements about every path of these two kernels are proved.) -/
theorem Cursor.advance (h : Cursor buf rest K L) (hd : d = n) (hn : n ≤ rest.length) :
    Cursor buf (rest.drop n) (K + d) (wrapS32 (L - d)) := by
  have hl := h.len
  obtain ⟨hb, hK, hK', hr, hL⟩ := h
  refine ⟨hb, by omega, by omega, ?_, ?_⟩
  · rw [hr, List.drop_drop]; congr 1; omega
  · rw [wrapS32_id (by omega) (by omega)]; omega

theorem Cursor.gt_iff (h : Cursor buf rest K L) (hd : d = n) : d > L ↔ n > rest.length := by
  have := h.len; omega

/-- `p - buf` fits an `int` -/
theorem Cursor.wrapS32_K (h : Cursor buf rest K L) : wrapS32 (K - 0) = K := by
  obtain ⟨hb, hK, hK', _, _⟩ := h
  rw [wrapS32_id (by omega) (by omega)]; omega

theorem Cursor.wrapU32 (h : Cursor buf rest K L) : wrapU32 L = L := by
  obtain ⟨hb, hK, hK', _, hL⟩ := h
  exact wrapU32_id (by omega) (by omega)

theorem Cursor.rdU8 (h : Cursor buf rest K L) (h0 : 0 < rest.length) : rdU8 (bufOf buf) K = rest[0].toNat := by
  obtain ⟨_, hK, _, hr, _⟩ := h
  subst hr
  rw [List.length_drop] at h0
  rw [rdU8_bufOf (i := K.toNat) (by omega) (by omega)]
  simp

theorem Cursor.rdBE32 (h : Cursor buf rest K L) (h4 : 4 ≤ rest.length) : rdBE32 (bufOf buf) K = rd32 (rest.take 4) := by
  obtain ⟨_, hK, _, hr, _⟩ := h
  subst hr
  rw [List.length_drop] at h4
  exact rd32_bufOf (by omega) (by omega)

variable {c c' : Prop} [Decidable c] [Decidable c'] {kcont : KOut}

/-- `if (1 > len) fail; x = *p; p++; len--` -/
theorem byte_ref {b : Bytes} {i : Nat} {f : UInt8 → PR α} (cur : Cursor buf (b.drop i) K L) (hm : c ↔ b.length ≤ i)
    (hc : c' ↔ 1 > L) (herr : R kerr (.err e))
    (hok : ∀ h : i < b.length, rdU8 (bufOf buf) K = b[i].toNat →
      Cursor buf (b.drop (i + 1)) (K + 1) (wrapS32 (L - 1)) → R kcont (f b[i])) :
    R (if c' then kerr else kcont) (if c then .err e else match byteAt b i with | none => .oob | some x => f x) := by
  have hl : (b.drop i).length = b.length - i := List.length_drop
  refine ite_ref (hm.trans ((by omega : b.length ≤ i ↔ 1 > (b.drop i).length).trans
    ((cur.gt_iff (n := 1) rfl).symm.trans hc.symm))) (fun _ => herr) fun h => ?_
  have hi : i < b.length := Nat.lt_of_not_le fun hh => h (hm.mpr hh)
  have h0 : 0 < (b.drop i).length := by omega
  have e := cur.rdU8 h0
  have cur' := cur.advance (n := 1) rfl h0
  rw [List.drop_drop] at cur'
  rw [List.getElem_drop] at e
  rw [byteAt_some hi]
  exact hok hi e cur'

/-- `if (d > len) fail; memcpy (.., p, d); p += d; len -= d` -/
theorem take_ref {f : Bytes → Bytes → PR α} (cur : Cursor buf rest K L) (hd : d = n) (hm : c ↔ n > rest.length)
    (hc : c' ↔ d > L) (herr : R kerr (.err e))
    (hok : n ≤ rest.length → Cursor buf (rest.drop n) (K + d) (wrapS32 (L - d)) → R kcont (f (rest.take n) (rest.drop n))) :
    R (if c' then kerr else kcont) (if c then .err e else match takeN rest n with | none => .oob | some (x, r) => f x r) := by
  refine ite_ref (hm.trans ((cur.gt_iff hd).symm.trans hc.symm)) (fun _ => herr) fun h => ?_
  have hn : n ≤ rest.length := Nat.le_of_not_lt fun hh => h (hm.mpr hh)
  exact takeN_ref hn (hok hn (cur.advance hd hn))

/-- `if (d > 0) { if (d > len) fail; memcpy (.., p, d); p += d; len -= d; }` -/
theorem takeOpt_ref {f : Bytes → Bytes → PR α} (cur : Cursor buf rest K L) (hd : d = n)
    (hm : (p ↔ n > 0) ∧ (q ↔ n > rest.length)) (hc : (p' ↔ d > 0) ∧ (q' ↔ d > L)) (herr : R kerr (.err e))
    (h1 : n > 0 → n ≤ rest.length → Cursor buf (rest.drop n) (K + d) (wrapS32 (L - d)) →
      R k1 (f (rest.take n) (rest.drop n)))
    (h0 : ¬ n > 0 → Cursor buf (rest.drop n) K L → R k0 (f (rest.take n) (rest.drop n))) :
    R (if p' then if q' then kerr else k1 else k0)
      (if p ∧ q then .err e else match takeN rest n with | none => .oob | some (x, r) => f x r) := by
  refine ite_and_ref (hm.1.trans ((by omega : n > 0 ↔ d > 0).trans hc.1.symm))
    (fun _ => hm.2.trans ((cur.gt_iff hd).symm.trans hc.2.symm)) herr (fun hp hq => ?_) (fun hp => ?_)
  · have hn : n ≤ rest.length := Nat.le_of_not_lt fun hh => hq (hm.2.mpr hh)
    exact takeN_ref hn (h1 (hm.1.mp hp) hn (cur.advance hd hn))
  · have hn : ¬ n > 0 := fun hh => hp (hm.1.mpr hh)
    refine takeN_ref (by omega) (h0 hn ?_)
    rw [Nat.eq_zero_of_not_pos hn]; exact cur

/-- `if (4 > len) fail; memcpy (&u, p, 4); x = ntohl (u); p += 4; len -= 4`.  The continuation gets the value and what
    is left as variables: with the terms themselves in their place, each further field would double the work of
    elaboration. -/
theorem field_ref {R : KOut → PR Msg → Prop} {w : String} {f : Nat → Bytes → PR Msg} (cur : Cursor buf rest K L)
    (hc : c' ↔ 4 > L) (herr : R kerr (.err (Munge.Gen.Dec.EMUNGE_BAD_CRED, w)))
    (hok : ∀ (v : Nat) (rest' : Bytes), rdBE32 (bufOf buf) K = v → Cursor buf rest' (K + 4) (wrapS32 (L - 4)) →
      R kcont (f v rest')) :
    R (if c' then kerr else kcont)
      (match take32 rest w with
       | .oob => .oob
       | .err e => .err e
       | .ok (v, r) => f v r) :=
  t32_ref ((cur.gt_iff (n := 4) rfl).symm.trans hc.symm) herr fun h =>
    have h4 : 4 ≤ rest.length := by omega
    hok _ _ (cur.rdBE32 h4) (cur.advance (n := 4) rfl h4)

theorem unpackOuter_refines (P : Prims) (m : Msg) (buf : Bytes) (hlen : buf.length ≤ 2147483647) :
    OuterRef m buf (kOuter P buf) (unpackOuter P m buf) := by
  unfold kOuter dec_unpack_outer unpackOuter
  have cur := Cursor.start hlen
  -- version, cipher, MAC, compression: a byte each (the translator has folded the offsets `0 + 1`, … to numerals)
  refine byte_ref cur (by omega) (by omega) ⟨rfl, rfl⟩ fun h0 e0 (cur : Cursor buf _ 1 _) => ?_
  refine ite_ref (by rw [e0]; exact Iff.rfl) (fun _ => ⟨rfl, rfl⟩) fun _ => ?_
  refine byte_ref cur (by omega) (by omega) ⟨rfl, rfl⟩ fun h1 e1 (cur : Cursor buf _ 2 _) => ?_
  refine ite_ref (by simp [e1, cme_neg]) (fun _ => ⟨rfl, rfl⟩) fun hcv => ?_
  refine ite_ref (by by_cases hc0 : buf[1].toNat = 0 <;> simp_all [cme_neg]) (fun _ => ⟨rfl, rfl⟩)
    fun hivn => ?_
  refine byte_ref cur (by omega) (by omega) ⟨rfl, rfl⟩ fun h2 e2 (cur : Cursor buf _ 3 _) => ?_
  refine ite_ref (by rw [e2, mme_neg]) (fun _ => ⟨rfl, rfl⟩) fun hmv => ?_
  refine ite_ref (by rw [e2, ms_nat]) (fun _ => ⟨rfl, rfl⟩) fun hml => ?_
  refine ite_ref (by rw [e1, e2, ms_nat, cks_nat]) (fun _ => ⟨rfl, rfl⟩) fun hmk => ?_
  refine byte_ref cur (by omega) (by omega) ⟨rfl, rfl⟩ fun h3 e3 (cur : Cursor buf _ 4 _) => ?_
  refine ite_ref (by simp [e3, zv_ne]) (fun _ => ⟨rfl, rfl⟩) fun hz => ?_
  -- realm length, realm, IV, MAC; `hiv`, `hms`: the kernel's IV and MAC lengths are the model's
  refine byte_ref cur (by omega) (by omega) ⟨rfl, rfl⟩ fun h4 e4 (cur : Cursor buf _ 5 _) => ?_
  have hiv : (if rdU8 (bufOf buf) 1 = 0 then 0 else civ P (rdU8 (bufOf buf) 1))
      = ((if buf[1].toNat = 0 then 0 else P.ivLen buf[1].toNat).toNat : Int) := by
    simp only [e1, civ_nat, Int.natCast_eq_zero]; omega
  have hms : ms P (rdU8 (bufOf buf) 2) = ((P.macLen buf[2].toNat).toNat : Int) := by rw [e2, ms_nat]; omega
  have w8 : wrapU8 (rdU8 (bufOf buf) 4 + 1) = (rdU8 (bufOf buf) 4 + 1) % 256 := rfl
  refine takeOpt_ref cur e4 ⟨Iff.rfl, Iff.rfl⟩ (by omega) ⟨rfl, rfl⟩
    (fun hr _ cur => ite_neg_ref (by decide) ?_) (fun hr cur => ?_)
  -- where the C continues inside and after an `if`, the kernel has the rest of the function once per case
  all_goals
    simp only [hr, ↓reduceIte]
    refine takeOpt_ref cur hiv (by omega) (by omega) ⟨rfl, rfl⟩ (fun hi _ curI => ?_) (fun hi curI => ?_)
    all_goals
      refine take_ref curI hms (by omega) (by omega) ⟨rfl, rfl⟩ fun _ curM => ?_
      have hK := curM.le
      refine outerRef_ok m buf _ buf[4].toNat _ _ _ h4 rfl (by omega) ?hret ?hc ?hm ?hz ?hrl ?hiv ?hml ?hol ?hio ?hrealm
      all_goals simp only [KOut.get, KOut.written, List.find?, String.reduceBEq, Option.map, Option.getD]
      case hc => exact e1
      case hm => exact e2
      case hz => exact e3
      case hrl => omega
      case hiv => exact hiv
      case hml => exact hms
      case hol => have := curI.wrapS32_K; omega
      case hio => omega
      case hrealm => simp only [hr, ↓reduceIte]

theorem unpackInner_refines (m : Msg) (cipher : Nat) (buf : Bytes) (hlen : buf.length ≤ 2147483647) :
    InnerRef buf (kInner cipher buf) (unpackInner m buf) := by
  unfold kInner dec_unpack_inner unpackInner
  have cur := Cursor.start hlen
  refine take_ref (d := 8) cur rfl Iff.rfl (by omega) ⟨rfl, rfl⟩ fun _ (cur : Cursor buf _ 8 _) => ?_
  refine byte_ref cur (by omega) (by omega) ⟨rfl, rfl⟩
    fun h1 e8 (cur : Cursor buf (List.drop 1 _) 9 _) => ?_
  refine ite_ref ((cur.gt_iff e8).symm.trans (by omega)) (fun _ => ⟨rfl, rfl⟩) fun h2 => ?_
  have haddr (al : Nat) :
      (if al = 4 then List.take al (List.drop 1 (List.drop Gen.Dec.MUNGE_CRED_SALT_LEN.toNat buf)) else [0, 0, 0, 0])
        = if al = 4 then (buf.drop 9).take 4 else [0, 0, 0, 0] := by
    rw [cur.eq_drop]; split
    next h => rw [h]; rfl
    next => rfl
  refine ite_split_ref (by omega) (by omega) ⟨rfl, rfl⟩ (fun _ => ?_) (fun _ _ => ?_)
  all_goals
    refine takeN_ref (by omega) ?_
    have cur := cur.advance e8 (by omega)
    refine field_ref cur (by omega) ⟨rfl, rfl⟩ fun _ _ v0 cur => ?_
    refine field_ref cur (by omega) ⟨rfl, rfl⟩ fun _ _ v1 cur => ?_
    refine field_ref cur (by omega) ⟨rfl, rfl⟩ fun _ _ v2 cur => ?_
    refine field_ref cur (by omega) ⟨rfl, rfl⟩ fun _ _ v3 cur => ?_
    refine field_ref cur (by omega) ⟨rfl, rfl⟩ fun _ _ v4 cur => ?_
    refine field_ref cur (by omega) ⟨rfl, rfl⟩ fun _ _ v5 cur => ?_
    refine field_ref cur (by omega) ⟨rfl, rfl⟩ fun _ _ v6 cur => ?_
    refine takeOpt_ref cur v6 ⟨Iff.rfl, Iff.rfl⟩ (by have := cur.wrapU32; omega) ⟨rfl, rfl⟩
      (fun hd _ _ => ?_) (fun hd _ => ?_)
    all_goals simp only [InnerRef, KOut.get, KOut.written, List.find?, String.reduceBEq, Option.map, Option.getD]
    · exact ⟨trivial, e8, v0, v1, v2, v3, v4, v5, v6, haddr _, by rw [if_pos hd, cur.eq_drop]; exact ⟨trivial, rfl⟩⟩
    · exact ⟨trivial, e8, v0, v1, v2, v3, v4, v5, v6, haddr _,
        by rw [if_neg hd, Nat.eq_zero_of_not_pos hd]; exact ⟨trivial, rfl⟩⟩

theorem ref_accepts {k : KOut} (hoob : ¬ R k .oob) (herr : ∀ e, R k (.err e) → k.ret = -1) (hok : ∀ a, R k (.ok a) → k.ret = 0)
    (h : R k r) : (∃ a, r = .ok a) ↔ k.ret = 0 := by
  cases r with
  | oob => exact absurd h hoob
  | err e => have := herr e h; exact ⟨fun ⟨_, h'⟩ => (nomatch h'), fun h0 => by omega⟩
  | ok a => exact ⟨fun _ => hok a h, fun _ => ⟨a, rfl⟩⟩

end Munge.Unpack
