import Munge.Model.Path
import Munge.Lemmas.Kernel
/-
For C16: (1) `band m mask`, for the masks the generated kernels use, as tests of the bits of `m`: with these a kernel's
conditions and a statement written in arithmetic on `st_mode` mention the same atoms, and what is left of a proof is
propositional (`fileOk_iff` is the file conditions of the statements in those atoms, `ite_true_eq_false` … push an
observation through a kernel's `if`); (2) the string loop of `path_is_secure` visits exactly the ancestors of a canonical
path.  `entropy_file_unlink` is a kernel fact C16 needs as a lemma.
-/
namespace Munge.Path
open Munge.C

theorem nat_and_mask (m k w : Nat) : m &&& ((2^w - 1) * 2^k) = (m / 2^k % 2^w) * 2^k := by
  -- split at bit `k`: below it the mask is 0, above it the mask is `2^w - 1`
  rw [← Nat.div_add_mod (m &&& _) (2^k), Nat.and_mod_two_pow, Nat.mul_mod_left, Nat.and_zero, Nat.and_div_two_pow,
    Nat.mul_div_cancel _ (Nat.two_pow_pos k), Nat.and_two_pow_sub_one_eq_mod, Nat.add_zero, Nat.mul_comm]

theorem band_mask (m : Int) (h : 0 ≤ m) (k w : Nat) :
    band m (((2^w - 1) * 2^k : Nat) : Int) = (m / ((2^k : Nat) : Int) % ((2^w : Nat) : Int)) * ((2^k : Nat) : Int) := by
  obtain ⟨n, rfl⟩ := Int.eq_ofNat_of_zero_le h
  unfold band
  simp only [Int.toNat_natCast]
  rw [nat_and_mask]
  simp [Int.natCast_ediv]

/-- all permission bits, `07777` -/
theorem band_4095 (m : Int) (h : 0 ≤ m) : band m 4095 = m % 4096 := by
  have := band_mask m h 0 12; simpa using this
/-- group read -/
theorem band_32 (m : Int) (h : 0 ≤ m) : band m 32 = (m / 32 % 2) * 32 := by
  have := band_mask m h 5 1; simpa using this
/-- other read -/
theorem band_4 (m : Int) (h : 0 ≤ m) : band m 4 = (m / 4 % 2) * 4 := by
  have := band_mask m h 2 1; simpa using this

-- `S_ISDIR`, `S_ISREG`, `S_ISLNK`: the file-type field `S_IFMT` is `m / 4096 % 16`
theorem band_ifdir (m : Int) (h : 0 ≤ m) : band m 61440 = 16384 ↔ m / 4096 % 16 = 4 := by
  have := band_mask m h 12 4; simp at this; omega
theorem band_ifreg (m : Int) (h : 0 ≤ m) : band m 61440 = 32768 ↔ m / 4096 % 16 = 8 := by
  have := band_mask m h 12 4; simp at this; omega
theorem band_iflnk (m : Int) (h : 0 ≤ m) : band m 61440 = 40960 ↔ m / 4096 % 16 = 10 := by
  have := band_mask m h 12 4; simp at this; omega
-- group read+write (48), other read+write (6)
theorem band_48 (m : Int) (h : 0 ≤ m) : band m 48 = 0 ↔ m / 16 % 4 = 0 := by
  have := band_mask m h 4 2; simp at this; omega
theorem band_6 (m : Int) (h : 0 ≤ m) : band m 6 = 0 ↔ m / 2 % 4 = 0 := by
  have := band_mask m h 1 2; simp at this; omega
-- a single bit: sticky (512), group write (16), other write (2), lowest bit (1, `PATH_SECURITY_IGNORE_GROUP_WRITE`)
theorem band_512 (m : Int) (h : 0 ≤ m) : band m 512 = 0 ↔ ¬ m / 512 % 2 = 1 := by
  have := band_mask m h 9 1; simp at this; omega
theorem band_16 (m : Int) (h : 0 ≤ m) : band m 16 = 0 ↔ ¬ m / 16 % 2 = 1 := by
  have := band_mask m h 4 1; simp at this; omega
theorem band_2 (m : Int) (h : 0 ≤ m) : band m 2 = 0 ↔ ¬ m / 2 % 2 = 1 := by
  have := band_mask m h 1 1; simp at this; omega
theorem band_1 (m : Int) (h : 0 ≤ m) : band m 1 = 0 ↔ ¬ m % 2 = 1 := by
  have := band_mask m h 0 1; simp at this; omega

/-- The conditions on a key or seed file (`l`: `lstat` of the name, `s`: `stat`/`fstat` of the file): "not a symbolic link;
    exists, regular, owned by `euid`, no group/other read or write bit", said of the stat records and said of what the
    kernels are handed (`rcOf`, `modeOf`, `uidOf`). -/
theorem fileOk_iff (euid : Int) (l s : Option Stat) :
    ((¬ ∃ x, l = some x ∧ x.mode / 4096 % 16 = 10) ∧ ∃ x, s = some x ∧ x.mode / 4096 % 16 = 8 ∧ x.uid = euid ∧
      ¬ x.mode / 32 % 2 = 1 ∧ ¬ x.mode / 16 % 2 = 1 ∧ ¬ x.mode / 4 % 2 = 1 ∧ ¬ x.mode / 2 % 2 = 1) ↔
    (¬ (rcOf l = 0 ∧ modeOf l / 4096 % 16 = 10) ∧ 0 ≤ rcOf s ∧ modeOf s / 4096 % 16 = 8 ∧ uidOf s = euid ∧
      modeOf s / 16 % 4 = 0 ∧ modeOf s / 2 % 4 = 0) := by
  cases l <;> cases s <;> simp [rcOf, modeOf, uidOf] <;> omega

section
open Munge.Gen.Path
open scoped Munge.Kernel
/-- `_random_read_entropy_from_file` unlinks the seed file exactly when `_random_read_seed` refused it, and then reports no
    entropy from it -/
theorem entropy_file_unlink (p0 force ur ue : Int) (sec rd : Int → Int) (hp0 : p0 ≠ 0) :
    (rd 1024 < 0 → fatal (random_read_entropy_from_file 1 p0 force 0 ur ue sec rd) = false →
      (random_read_entropy_from_file 1 p0 force 0 ur ue sec rd).calls "unlink" = true ∧
      (random_read_entropy_from_file 1 p0 force 0 ur ue sec rd).ret ≤ 0) ∧
    (0 ≤ rd 1024 → (random_read_entropy_from_file 1 p0 force 0 ur ue sec rd).calls "unlink" = false) := by
  kcases random_read_entropy_from_file <;> simp [fatal] <;> omega
end

theorem ite_true_eq_false (c : Prop) [Decidable c] (b : Bool) :
    ((if c then true else b) = false) ↔ (¬ c ∧ b = false) := by
  simp

theorem ite_false_eq_false (c : Prop) [Decidable c] (b : Bool) :
    ((if c then false else b) = false) ↔ (c ∨ b = false) := by
  split <;> simp [*]

theorem ite_true_eq_true (c : Prop) [Decidable c] (b : Bool) :
    ((if c then true else b) = true) ↔ (c ∨ b = true) := by
  simp

theorem ite_false_eq_true (c : Prop) [Decidable c] (b : Bool) :
    ((if c then false else b) = true) ↔ (¬ c ∧ b = true) := by
  simp

theorem lastSlash_append_slash (a c : List Char) (hc : '/' ∉ c) :
    lastSlash (a ++ '/' :: c) = some a.length := by
  have hnone : lastSlash c = none := by
    induction c with
    | nil => rfl
    | cons x xs ih =>
      have hx : x ≠ '/' := fun h => hc (by simp [h])
      have hxs : '/' ∉ xs := fun h => hc (by simp [h])
      simp [lastSlash, ih hxs, hx]
  induction a with
  | nil => simp [lastSlash, hnone]
  | cons x xs ih => simp [lastSlash, ih]

/-- "/c1/c2/…" (empty for no components) -/
def body (cs : List (List Char)) : List Char := cs.flatMap (fun c => '/' :: c)

/-- the canonical absolute path with components `cs` ("/" for none) -/
def render (cs : List (List Char)) : List Char := if cs = [] then ['/'] else body cs

/-- path components: non-empty, without '/' -/
def Comps (cs : List (List Char)) : Prop := ∀ c ∈ cs, c ≠ [] ∧ '/' ∉ c

/-- the directory itself and every ancestor up to "/", deepest first -/
def ancestors (cs : List (List Char)) : List (List Char) :=
  ((List.range (cs.length + 1)).map (fun k => render (cs.take k))).reverse

theorem body_snoc (cs : List (List Char)) (c : List Char) : body (cs ++ [c]) = body cs ++ '/' :: c := by
  simp [body]

theorem render_ne_nil (cs : List (List Char)) : render cs ≠ [] := by
  cases cs <;> simp [render, body]

theorem render_head (cs : List (List Char)) : (render cs).head? = some '/' := by
  cases cs <;> simp [render, body]

theorem render_snoc_length (cs : List (List Char)) (c : List Char) (hc : c ≠ []) :
    (render cs).length < (render (cs ++ [c])).length := by
  have := List.length_pos_iff.mpr hc
  simp only [render, List.append_eq_nil_iff, List.cons_ne_nil, and_false, if_false, body_snoc, List.length_append,
    List.length_cons]
  split <;> simp [*, body]

theorem advance_root : advance ['/'] = some [] := by decide

theorem advance_snoc (cs : List (List Char)) (c : List Char) (hc : c ≠ [] ∧ '/' ∉ c) :
    advance (render (cs ++ [c])) = some (render cs) := by
  rw [render, if_neg (by simp), body_snoc, advance, lastSlash_append_slash _ _ hc.2]
  cases cs with
  | nil => simp [body, render, List.length_pos_iff.mpr hc.1]
  | cons d ds =>
    have hb : body (d :: ds) ≠ [] := by simp [body]
    simp [render, hb]

theorem ancestors_nil : ancestors [] = [['/']] := by decide

theorem ancestors_snoc (cs : List (List Char)) (c : List Char) :
    ancestors (cs ++ [c]) = render (cs ++ [c]) :: ancestors cs := by
  simp only [ancestors, List.length_append, List.length_singleton, List.range_succ (n := cs.length + 1), List.map_append,
    List.reverse_append, List.map_cons, List.map_nil, List.reverse_singleton, List.singleton_append, List.cons.injEq,
    List.reverse_inj]
  refine ⟨by rw [List.take_of_length_le (by simp)], List.map_congr_left fun k hk => ?_⟩
  rw [List.take_append_of_le_length (by have := List.mem_range.1 hk; omega)]

/-- the first failing per-directory check along a list of directories -/
def firstFail (flags tgid euid : Int) (env : Env) : List (List Char) → Verdict
  | [] => { rc := 1 }
  | a :: rest =>
    let o := checkDir flags tgid euid env a
    if o.ret ≠ 2 then { rc := o.ret, site := errSite o, at_ := a } else firstFail flags tgid euid env rest

theorem walk_render (flags tgid euid : Int) (env : Env) (cs : List (List Char)) (h : Comps cs)
    (fuel : Nat) (hf : (render cs).length < fuel) :
    walk flags tgid euid env fuel (render cs) = firstFail flags tgid euid env (ancestors cs) := by
  -- the loop strips the last component: induction from the right
  obtain ⟨rcs, rfl⟩ : ∃ rcs, cs = rcs.reverse := ⟨cs.reverse, cs.reverse_reverse.symm⟩
  induction rcs generalizing fuel with
  | nil =>
    obtain _ | _ | f := fuel
    · simp at hf
    · simp [render] at hf
    · simp only [List.reverse_nil, ancestors_nil, show render [] = ['/'] from rfl, walk, firstFail, List.cons_ne_nil,
        if_false]
      split
      · rfl
      · rw [advance_root]; simp
  | cons c rest ih =>
    obtain _ | f := fuel
    · simp at hf
    have hc : c ≠ [] ∧ '/' ∉ c := h c (by simp)
    simp only [List.reverse_cons] at hf ⊢
    rw [ancestors_snoc]
    simp only [walk, firstFail]
    rw [if_neg (render_ne_nil _)]
    split
    · rfl
    · rw [advance_snoc _ _ hc]
      exact ih f (fun x hx => h x (by simp [hx])) (by have := render_snoc_length rest.reverse c hc.1; omega)

theorem firstFail_one_iff (flags tgid euid : Int) (env : Env) (l : List (List Char))
    (hne : ∀ a, (checkDir flags tgid euid env a).ret ≠ 1) :
    (firstFail flags tgid euid env l).rc = 1 ↔ ∀ a ∈ l, (checkDir flags tgid euid env a).ret = 2 := by
  induction l with
  | nil => simp [firstFail]
  | cons a rest ih =>
    simp only [firstFail, List.mem_cons, forall_eq_or_imp]
    by_cases h : (checkDir flags tgid euid env a).ret = 2
    · simp [h, ih]
    · simp [h, hne a]

theorem firstFail_zero (flags tgid euid : Int) (env : Env) (l : List (List Char))
    (h : (firstFail flags tgid euid env l).rc = 0) : ∃ a ∈ l, (checkDir flags tgid euid env a).ret = 0 := by
  induction l with
  | nil => simp [firstFail] at h
  | cons a rest ih =>
    simp only [firstFail] at h
    split at h
    · exact ⟨a, List.mem_cons_self, h⟩
    · obtain ⟨b, hb, hb'⟩ := ih h
      exact ⟨b, List.mem_cons_of_mem _ hb, hb'⟩

theorem mem_ancestors (cs : List (List Char)) (a : List Char) :
    a ∈ ancestors cs ↔ ∃ k, k ≤ cs.length ∧ a = render (cs.take k) := by
  unfold ancestors
  rw [List.mem_reverse, List.mem_map]
  constructor
  · rintro ⟨k, hk, rfl⟩; exact ⟨k, by have := List.mem_range.1 hk; omega, rfl⟩
  · rintro ⟨k, hk, rfl⟩; exact ⟨k, List.mem_range.2 (by omega), rfl⟩

theorem isSecure_render (flags tgid euid : Int) (env : Env) (cs : List (List Char)) (hcs : Comps cs) (s : Stat)
    (hs : env (render cs) = some s) (hm : 0 ≤ s.mode) (hd : s.mode / 4096 % 16 = 4) :
    isSecure flags tgid euid env (some (render cs)) = firstFail flags tgid euid env (ancestors cs) := by
  have hdm : isDirMode s.mode := (band_ifdir _ hm).2 hd
  unfold isSecure
  simp only [render_head cs, ne_eq, not_true_eq_false, if_false, hs, startBuf, hdm, if_true]
  exact walk_render _ _ _ _ _ hcs _ (Nat.lt_succ_self _)

end Munge.Path
