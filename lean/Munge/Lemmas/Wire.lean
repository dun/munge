import Munge.Model.Wire
import Munge.Lemmas.Kernel
/-
Lemmas about the message codec model (`Munge.Model.Wire`), generic over descriptor lists: what a lemma needs to know of
the lists and exit codes generated from m_msg.c it takes as a decidable hypothesis (`guarded`, `codesOk`, `typeOk`, …);
`Props/C14.lean` and `Lemmas/WireCred.lean` instantiate the lemmas and discharge those hypotheses by `decide`.

* `rrun`: an unpack chain as a function of the unread bytes (no cursor, no logs), tied to the interpreter by
  `urun_rrun`.  The round trip and the bridge to the credential model reason about `rrun`.
* Safety: `guarded` is an abstract interpretation of a chain (`Abs`); `guarded` chains log no access outside.
* Exits: `unpack_cases` is the one walk through what `_msg_unpack` does after the chain; questions about its return
  code go through it.
* Round trip: `chunks` is what a chain contributes to the packet; `rrun_chunks` is what the other side makes of it.
* `m_msg_reset` is a fold over the writes of its translated kernel: `foldl_applyWrite_int` / `_buf` read a member's
  value afterwards off the write list.
-/
namespace Munge.Wire
open Munge.C Munge.Gen.Wire

theorem beBytes_length (w v : Nat) : (beBytes w v).length = w := by
  induction w generalizing v with
  | zero => rfl
  | succ w ih => simp [beBytes, ih]

theorem beVal_snoc (a : List UInt8) (b : UInt8) : beVal (a ++ [b]) = beVal a * 256 + b.toNat := by
  simp [beVal, List.foldl_append]

theorem beVal_beBytes (w v : Nat) : beVal (beBytes w v) = v % 256 ^ w := by
  induction w generalizing v with
  | zero => simp [beBytes, beVal, Nat.mod_one]
  | succ w ih =>
    rw [beBytes, beVal_snoc, ih, UInt8.toNat_ofNat']
    have h : 256 ^ (w + 1) = 256 * 256 ^ w := by rw [Nat.pow_succ, Nat.mul_comm]
    rw [h, Nat.mod_mul]
    omega

theorem cInt_small {v : Nat} (h : v < 2147483648) : cInt v = v := by
  unfold cInt wrapS32; omega

theorem cInt_pos_le (v : Nat) (h : 0 < cInt v) : cInt v ≤ v := by
  unfold cInt at *; unfold wrapS32 at *; omega

theorem cInt_neg {v : Nat} (h1 : 2147483648 ≤ v) (h2 : v < 4294967296) : cInt v < 0 := by
  unfold cInt wrapS32; omega

theorem lookup_entry {tab : List (Nat × List Fld)} {t : Nat} {fl : List Fld}
    (h : lookup tab t = some fl) : (t, fl) ∈ tab := by
  obtain ⟨⟨a, b⟩, he, rfl⟩ := Option.map_eq_some_iff.mp h
  obtain rfl : a = t := beq_iff_eq.mp (List.find?_some he :)
  exact List.mem_of_find?_eq_some he

theorem setInt_int (m : Msg) (f k : String) (v : Nat) : (m.setInt f v).int k = if k = f then v else m.int k := rfl

theorem setInt_buf (m : Msg) (f : String) (v : Nat) : (m.setInt f v).buf = m.buf := rfl

theorem setInt_fix (m : Msg) (f : String) (v : Nat) : (m.setInt f v).fix = m.fix := rfl

theorem bytesOf_heap (m : Msg) (f : String) : m.bytesOf f .heap = (m.buf f).getD [] := rfl

theorem bytesOf_congr {m m' : Msg} {f : String} (h : m'.buf f = m.buf f ∧ m'.fix f = m.fix f) (d : Dest) :
    m'.bytesOf f d = m.bytesOf f d := by
  cases d <;> simp [Msg.bytesOf, h.1, h.2]

theorem setBuf_setBuf (m : Msg) (f : String) (a b : Option (List UInt8)) :
    (m.setBuf f a).setBuf f b = m.setBuf f b := by
  simp only [Msg.setBuf, Msg.mk.injEq, true_and, and_true]
  funext k
  by_cases hk : k = f <;> simp [hk]

theorem setInt_self (m : Msg) (k : String) (v : Nat) (h : m.int k = v) : m.setInt k v = m := by
  cases m
  simp only [Msg.setInt, Msg.mk.injEq, and_true]
  funext k'
  split
  · subst k'; exact h.symm
  · rfl

/-- `ustep` without the cursor and the logs: what a link makes of the unread part `b` of the packet (`none`: the chain
    is left through `err` or `nomem`) -/
def rstep (mok : Nat → Bool) (m : Msg) (b : List UInt8) : Fld → Option (Msg × List UInt8)
  | .int f w =>
      if b.length < w ∨ okWidth w = false then none else some (m.setInt f (beVal (b.take w)), b.drop w)
  | .alloc f l =>
      if cInt (m.int l) = 0 then some (m, b) else if cInt (m.int l) < 0 then none
      else if !mok ((cInt (m.int l)).toNat + 1) then none else some (m.setBuf f (some []), b)
  | .bytes f l d =>
      let n := (cInt (m.int l)).toNat
      if cInt (m.int l) < 0 then none else if cInt (m.int l) = 0 then some (m, b)
      else if b.length < n then none
      else some (match d with
                 | .heap => m.setBuf f (some (b.take n))
                 | .fixed _ => m.setFix f (b.take n ++ (m.fix f).drop n), b.drop n)
  | .guard l c k => if c.eval (m.int l) k then none else some (m, b)
  | .var _ => none

def rrun (mok : Nat → Bool) : List Fld → Msg → List UInt8 → Option (Msg × List UInt8)
  | [], m, b => some (m, b)
  | f :: fs, m, b => (rstep mok m b f).bind (fun r => rrun mok fs r.1 r.2)

theorem rrun_nil {mok : Nat → Bool} (m : Msg) (b : List UInt8) : rrun mok [] m b = some (m, b) := rfl

/-- an integer link of a legal width: the form for any input -/
theorem rrun_int {mok : Nat → Bool} (f : String) {w : Nat} (hw : okWidth w = true) (fs : List Fld) (m : Msg)
    (b : List UInt8) :
    rrun mok (.int f w :: fs) m b =
      if b.length < w then none else rrun mok fs (m.setInt f (beVal (b.take w))) (b.drop w) := by
  simp only [rrun, rstep, hw, Bool.true_eq_false, or_false]
  split <;> rfl

/-- … and the form for a one-byte integer when the input is visibly `a :: b` -/
theorem rrun_int1_cons {mok : Nat → Bool} (f : String) (fs : List Fld) (m : Msg) (a : UInt8) (b : List UInt8) :
    rrun mok (.int f 1 :: fs) m (a :: b) = rrun mok fs (m.setInt f a.toNat) b := by
  simp [rrun, rstep, okWidth, beVal]

theorem urun_cons (mok : Nat → Bool) (src : List UInt8) (srclen : Int) (fld : Fld) (fs : List Fld) (st : USt) :
    urun mok src srclen (fld :: fs) st =
      if (ustep mok src srclen st fld).1 = .ok then urun mok src srclen fs (ustep mok src srclen st fld).2
      else ustep mok src srclen st fld := by
  rw [urun]
  generalize ustep mok src srclen st fld = x
  obtain ⟨rc, st1⟩ := x
  cases rc <;> rfl

theorem ustep_rstep (mok : Nat → Bool) (src : List UInt8) (st : USt)
    (hp : st.p ≤ src.length) (fld : Fld) :
    (∀ r, rstep mok st.m (src.drop st.p) fld = some r →
      ∃ st', ustep mok src (src.length : Int) st fld = (.ok, st') ∧ st'.m = r.1 ∧
        st'.p ≤ src.length ∧ src.drop st'.p = r.2) ∧
    (rstep mok st.m (src.drop st.p) fld = none → (ustep mok src (src.length : Int) st fld).1 ≠ .ok) := by
  have hl : (src.drop st.p).length = src.length - st.p := List.length_drop
  cases fld with
  | int f w =>
    simp only [rstep, ustep, hl]
    by_cases h1 : (st.p : Int) + w > src.length
    · rw [if_pos (.inl (by omega)), if_pos h1]; exact ⟨nofun, fun _ => nofun⟩
    · cases h2 : okWidth w with
      | false => rw [if_pos (.inr rfl), if_neg h1]; exact ⟨nofun, fun _ => nofun⟩
      | true =>
        rw [if_neg (by rintro (h | h); omega; cases h), if_neg h1]
        exact ⟨by rintro r ⟨⟩; exact ⟨_, rfl, rfl, by simp only; omega, by simp only [List.drop_drop]⟩, nofun⟩
  | alloc f l =>
    simp only [rstep, ustep]
    by_cases h0 : cInt (st.m.int l) = 0
    · simp only [if_pos h0]; exact ⟨by rintro r ⟨⟩; exact ⟨_, rfl, rfl, hp, rfl⟩, nofun⟩
    simp only [if_neg h0]
    by_cases hn : cInt (st.m.int l) < 0
    · simp only [if_pos hn]; exact ⟨nofun, fun _ => nofun⟩
    simp only [if_neg hn]
    cases mok ((cInt (st.m.int l)).toNat + 1) with
    | false => exact ⟨nofun, fun _ => nofun⟩
    | true => exact ⟨by rintro r ⟨⟩; exact ⟨_, rfl, rfl, hp, rfl⟩, nofun⟩
  | bytes f l d =>
    simp only [rstep, ustep, hl]
    by_cases hn : cInt (st.m.int l) < 0
    · simp only [if_pos hn]; exact ⟨nofun, fun _ => nofun⟩
    simp only [if_neg hn]
    by_cases h0 : cInt (st.m.int l) = 0
    · simp only [if_pos h0]; exact ⟨by rintro r ⟨⟩; exact ⟨_, rfl, rfl, hp, rfl⟩, nofun⟩
    simp only [if_neg h0]
    by_cases h1 : (st.p : Int) + cInt (st.m.int l) > src.length
    · rw [if_pos (by omega), if_pos h1]; exact ⟨nofun, fun _ => nofun⟩
    rw [if_neg (by omega), if_neg h1]
    refine ⟨?_, nofun⟩
    rintro r ⟨⟩
    cases d <;> exact ⟨_, rfl, rfl, by simp only; omega, by simp only [List.drop_drop]⟩
  | guard l c k =>
    simp only [rstep, ustep]
    cases c.eval (st.m.int l) k with
    | true => exact ⟨nofun, fun _ => nofun⟩
    | false => exact ⟨by rintro r ⟨⟩; exact ⟨_, rfl, rfl, hp, rfl⟩, nofun⟩
  | var l => exact ⟨nofun, fun _ => nofun⟩

theorem urun_rrun (mok : Nat → Bool) (src : List UInt8) :
    ∀ (fl : List Fld) (st : USt), st.p ≤ src.length →
      (∀ r, rrun mok fl st.m (src.drop st.p) = some r →
        ∃ st', urun mok src (src.length : Int) fl st = (.ok, st') ∧ st'.m = r.1) ∧
      (rrun mok fl st.m (src.drop st.p) = none → (urun mok src (src.length : Int) fl st).1 ≠ .ok) := by
  intro fl
  induction fl with
  | nil => intro st _; exact ⟨by rintro r ⟨⟩; exact ⟨st, rfl, rfl⟩, nofun⟩
  | cons fld fs ih =>
    intro st hp
    obtain ⟨h1, h2⟩ := ustep_rstep mok src st hp fld
    rw [rrun, urun_cons]
    cases hr : rstep mok st.m (src.drop st.p) fld with
    | none => rw [if_neg (h2 hr)]; exact ⟨nofun, fun _ => h2 hr⟩
    | some r =>
      obtain ⟨st1, hs, hm, hp1, hd⟩ := h1 r hr
      rw [hs, if_pos rfl, Option.bind_some, ← hm, ← hd]
      exact ih st1 hp1

theorem urun_keeps {α : Type} (mok : Nat → Bool) (src : List UInt8) (srclen : Int) (g : USt → α) (bad : Fld → Bool)
    (hstep : ∀ st fld, bad fld = false → g (ustep mok src srclen st fld).2 = g st) :
    ∀ (fs : List Fld) (st : USt), fs.any bad = false → g (urun mok src srclen fs st).2 = g st := by
  intro fs
  induction fs with
  | nil => intro st _; rfl
  | cons fld fs ih =>
    intro st ht
    simp only [List.any_cons, Bool.or_eq_false_iff] at ht
    rw [urun_cons]
    split
    · exact (ih _ ht.2).trans (hstep st fld ht.1)
    · exact hstep st fld ht.1

/-- the link allocates or fills the variable-length member `f` -/
def touches (f : String) : Fld → Bool
  | .alloc g _ => g == f
  | .bytes g _ _ => g == f
  | _ => false

theorem ustep_frame (mok : Nat → Bool) (src : List UInt8) (srclen : Int) (f : String) (st : USt) (fld : Fld)
    (ht : touches f fld = false) :
    ((ustep mok src srclen st fld).2.m.buf f, (ustep mok src srclen st fld).2.m.fix f) = (st.m.buf f, st.m.fix f) := by
  cases fld with
  -- `kcases` takes any function whose body is a tree of `if`s; here the interpreter's step, not a translated kernel
  | int g w => kcases ustep <;> rfl
  | alloc g l =>
    simp only [touches, beq_eq_false_iff_ne] at ht
    kcases ustep <;> first | rfl | simp only [Msg.setBuf, if_neg ht.symm]
  | bytes g l d =>
    simp only [touches, beq_eq_false_iff_ne] at ht
    cases d <;> kcases ustep <;> first | rfl | simp only [Msg.setBuf, Msg.setFix, if_neg ht.symm]
  | guard l c k => kcases ustep <;> rfl
  | var l => rfl

theorem urun_frame (mok : Nat → Bool) (src : List UInt8) (srclen : Int) (f : String) (fs : List Fld) (st : USt)
    (ht : fs.any (touches f) = false) :
    (urun mok src srclen fs st).2.m.buf f = st.m.buf f ∧ (urun mok src srclen fs st).2.m.fix f = st.m.fix f :=
  Prod.mk.inj (urun_keeps mok src srclen (fun st => (st.m.buf f, st.m.fix f)) (touches f)
    (fun st fld h => ustep_frame mok src srclen f st fld h) fs st ht)

theorem rrun_frame (mok : Nat → Bool) (f : String) (fs : List Fld) (m : Msg) (b : List UInt8) (r : Msg × List UInt8)
    (ht : fs.any (touches f) = false) (hr : rrun mok fs m b = some r) :
    r.1.buf f = m.buf f ∧ r.1.fix f = m.fix f := by
  obtain ⟨st', hs, hm⟩ := (urun_rrun mok b fs (USt.init m) (Nat.zero_le _)).1 r hr
  have := urun_frame mok b (b.length : Int) f fs (USt.init m) ht
  rw [hs] at this
  exact hm ▸ this

/-- the link unpacks the integer member `f` -/
def isIntNamed (f : String) : Fld → Bool
  | .int g _ => g == f
  | _ => false

theorem isIntNamed_iff {f : String} {fld : Fld} : isIntNamed f fld = true ↔ ∃ w, fld = .int f w := by
  cases fld <;> simp [isIntNamed]

theorem ustep_int_frame (mok : Nat → Bool) (src : List UInt8) (srclen : Int) (f : String) (st : USt) (fld : Fld)
    (ht : isIntNamed f fld = false) : (ustep mok src srclen st fld).2.m.int f = st.m.int f := by
  cases fld with
  | int g w =>
    simp only [isIntNamed, beq_eq_false_iff_ne] at ht
    kcases ustep <;> first | rfl | simp only [Msg.setInt, if_neg ht.symm]
  | alloc g l => kcases ustep <;> rfl
  | bytes g l d => cases d <;> kcases ustep <;> rfl
  | guard l c k => kcases ustep <;> rfl
  | var l => rfl

theorem urun_int_frame (mok : Nat → Bool) (src : List UInt8) (srclen : Int) (f : String) (fs : List Fld) (st : USt)
    (ht : fs.any (isIntNamed f) = false) : (urun mok src srclen fs st).2.m.int f = st.m.int f :=
  urun_keeps mok src srclen (fun st => st.m.int f) (isIntNamed f)
    (fun st fld h => ustep_int_frame mok src srclen f st fld h) fs st ht

theorem setErr_int (m : Msg) (e : Nat) (s : Option (List UInt8)) {f : String} (hf : f ≠ "error_len") :
    (setErr m e s).1.int f =
      if m.int "error_num" = EMUNGE_SUCCESS ∧ e ≠ EMUNGE_SUCCESS then (if f = "error_num" then e % 256 else m.int f)
      else m.int f := by
  unfold setErr
  split
  · exact if_neg hf
  · rfl

theorem setErr_int_frame (m : Msg) (e : Nat) (s : Option (List UInt8)) (f : String)
    (h1 : f ≠ "error_num") (h2 : f ≠ "error_len") : (setErr m e s).1.int f = m.int f := by
  rw [setErr_int m e s h2, if_neg h1, ite_self]

theorem unpack_int_frame (mok : Nat → Bool) (t : Nat) (f : String) (fl : List Fld)
    (hl : lookup unpackTable t = some fl) (hfl : fl.any (isIntNamed f) = false)
    (hpc : t ≠ postCheckType) (h1 : f ≠ "error_num") (h2 : f ≠ "error_len")
    (m : Msg) (src : List UInt8) (srclen : Int) :
    (unpack mok t m src srclen).2.m.int f = m.int f := by
  unfold unpack
  simp only [hl]
  have hfr := urun_int_frame mok src srclen f fl (USt.init m) hfl
  generalize urun mok src srclen fl (USt.init m) = x at hfr
  obtain ⟨rc, st⟩ := x
  cases rc with
  | ok => simp only [if_neg hpc]; exact hfr
  | err | nomem => exact (setErr_int_frame _ _ _ _ h1 h2).trans hfr

/-- what is known while walking an unpack chain: `al` — pairs (pointer member, length member) such
    that the block behind the pointer has room for the current value of the length member
    (or that value is not positive); `bd` — pairs (length member, k) with current value ≤ k -/
structure Abs where
  al : List (String × String)
  bd : List (String × Nat)

/-- `none`: the link copies into a destination whose capacity is not known to suffice -/
def absStep (a : Abs) : Fld → Option Abs
  | .int f _ => some { al := a.al.filter (fun e => e.2 != f), bd := a.bd.filter (fun e => e.1 != f) }
  | .alloc f l => some { a with al := (f, l) :: a.al.filter (fun e => e.1 != f) }
  | .bytes f l .heap => if a.al.contains (f, l) then some a else none
  | .bytes _ l (.fixed cap) => if a.bd.any (fun e => e.1 == l && decide (e.2 ≤ cap)) then some a else none
  | .guard l .gt k => some { a with bd := (l, k) :: a.bd }
  | .guard l .ge k => some { a with bd := (l, k - 1) :: a.bd }
  | .guard l .ne k => some { a with bd := (l, k) :: a.bd }
  | .guard _ _ _ => some a
  | .var _ => some a

def guardedFrom (a : Abs) : List Fld → Bool
  | [] => true
  | f :: fs => match absStep a f with
    | none => false
    | some a' => guardedFrom a' fs

/-- every heap copy-in is preceded by the matching `_alloc` on the same, unchanged length member;
    every copy-in to an in-struct destination is preceded by a test bounding the (unchanged)
    length member by the destination's size -/
def guarded (fl : List Fld) : Bool := guardedFrom ⟨[], []⟩ fl

/-- the state `st` of the interpreter is as `a` says -/
def Inv (a : Abs) (st : USt) : Prop :=
  (∀ e ∈ a.al, cInt (st.m.int e.2) ≤ 0 ∨ cInt (st.m.int e.2) < st.caps e.1) ∧
  (∀ e ∈ a.bd, st.m.int e.1 ≤ e.2)

/-- all logged accesses are inside the packet of `n` bytes / inside their destination -/
def Safe (n : Nat) (st : USt) : Prop :=
  (∀ r ∈ st.reads, r.1 + r.2 ≤ n) ∧ (∀ w ∈ st.writes, w.2.1 ≤ w.2.2)

theorem Safe.oob {n : Nat} {st : USt} (h : Safe n st) : st.oob n = false := by
  unfold USt.oob
  simp only [Bool.or_eq_false_iff, List.any_eq_false]
  refine ⟨fun r hr => ?_, fun w hw => ?_⟩
  · have := h.1 r hr; simp; omega
  · have := h.2 w hw; simp; omega

theorem Safe.init (n : Nat) (m : Msg) : Safe n (USt.init m) := by
  simp [Safe, USt.init]

theorem forall_mem_snoc {α : Type} {p : α → Prop} {l : List α} {a : α} (hl : ∀ x ∈ l, p x) (ha : p a) :
    ∀ x ∈ l ++ [a], p x :=
  List.forall_mem_append.mpr ⟨hl, List.forall_mem_singleton.mpr ha⟩

theorem ustep_safe (mok : Nat → Bool) (src : List UInt8) (srclen : Int) (n : Nat) (hn : srclen ≤ n)
    (a a' : Abs) (fld : Fld) (st : USt) (ha : absStep a fld = some a') (hi : Inv a st) (hs : Safe n st) :
    Safe n (ustep mok src srclen st fld).2 ∧
      ((ustep mok src srclen st fld).1 = .ok → Inv a' (ustep mok src srclen st fld).2) := by
  cases fld with
  | int f w =>
    simp only [absStep, Option.some.injEq] at ha
    subst ha
    simp only [ustep]
    split; · exact ⟨hs, nofun⟩
    split; · exact ⟨hs, nofun⟩
    refine ⟨⟨forall_mem_snoc hs.1 (by omega), hs.2⟩, fun _ => ⟨fun e he => ?_, fun e he => ?_⟩⟩
    all_goals
      simp only [List.mem_filter, bne_iff_ne, ne_eq] at he
      simp only [Msg.setInt, if_neg he.2]
    · exact hi.1 e he.1
    · exact hi.2 e he.1
  | alloc f l =>
    simp only [absStep, Option.some.injEq] at ha
    subst ha
    rw [ustep]
    split
    · rename_i h0
      refine ⟨hs, fun _ => ⟨fun e he => ?_, hi.2⟩⟩
      rcases List.mem_cons.mp he with rfl | he
      · exact .inl (by show cInt (st.m.int l) ≤ 0; omega)
      · exact hi.1 e (List.mem_filter.mp he).1
    split; · exact ⟨hs, nofun⟩
    split; · exact ⟨hs, nofun⟩
    refine ⟨hs, fun _ => ⟨fun e he => ?_, hi.2⟩⟩
    rcases List.mem_cons.mp he with rfl | he
    · exact .inr (by simp only [Msg.setBuf, ↓reduceIte]; omega)
    · have hne : ¬ e.1 = f := by simpa using (List.mem_filter.mp he).2
      have := hi.1 e (List.mem_filter.mp he).1
      simpa only [Msg.setBuf, if_neg hne] using this
  | bytes f l d =>
    cases d with
    | heap =>
      simp only [absStep] at ha
      split at ha
      · cases ha
        rename_i hc
        have hcap := hi.1 (f, l) (by simpa using hc)
        kcases ustep
        · exact ⟨hs, nofun⟩
        · exact ⟨hs, fun _ => hi⟩
        · exact ⟨hs, nofun⟩
        · exact ⟨⟨forall_mem_snoc hs.1 (by omega),
            forall_mem_snoc hs.2 (by simp only at hcap ⊢; omega)⟩, fun _ => hi⟩
      · cases ha
    | fixed cap =>
      simp only [absStep] at ha
      split at ha
      · cases ha
        rename_i hc
        simp only [List.any_eq_true, Bool.and_eq_true, beq_iff_eq, decide_eq_true_eq] at hc
        obtain ⟨e, he, hel, hek⟩ := hc
        have hb := hi.2 e he
        rw [hel] at hb
        kcases ustep
        · exact ⟨hs, nofun⟩
        · exact ⟨hs, fun _ => hi⟩
        · exact ⟨hs, nofun⟩
        · have hle := cInt_pos_le (st.m.int l) (by omega)
          exact ⟨⟨forall_mem_snoc hs.1 (by omega),
            forall_mem_snoc hs.2 (by simp only; omega)⟩, fun _ => hi⟩
      · cases ha
  | guard l c k =>
    kcases ustep
    · exact ⟨hs, nofun⟩
    rename_i hc
    refine ⟨hs, fun _ => ?_⟩
    cases c <;> simp only [absStep, Option.some.injEq] at ha <;> subst ha <;>
      simp only [Cmp.eval, decide_eq_true_eq] at hc
    -- a test `>`, `>=` or `!=` that did not fire bounds the member
    case gt | ge | ne => exact ⟨hi.1, List.forall_mem_cons.mpr ⟨by show st.m.int l ≤ _; omega, hi.2⟩⟩
    all_goals exact hi
  | var l => exact ⟨hs, nofun⟩

theorem urun_safe (mok : Nat → Bool) (src : List UInt8) (srclen : Int) (n : Nat) (hn : srclen ≤ n) :
    ∀ (fl : List Fld) (a : Abs) (st : USt), guardedFrom a fl = true → Inv a st → Safe n st →
      Safe n (urun mok src srclen fl st).2 := by
  intro fl
  induction fl with
  | nil => intro a st _ _ hs; exact hs
  | cons fld fs ih =>
    intro a st hg hi hs
    simp only [guardedFrom] at hg
    cases ha : absStep a fld with
    | none => simp [ha] at hg
    | some a1 =>
      simp only [ha] at hg
      have h1 := ustep_safe mok src srclen n hn a a1 fld st ha hi hs
      rw [urun_cons]
      split
      · exact ih a1 _ hg (h1.2 ‹_›) h1.1
      · exact h1.1

theorem unpack_safe_of_guarded (hg : ∀ e ∈ unpackTable, guarded e.2 = true)
    (mok : Nat → Bool) (t : Nat) (m : Msg) (src : List UInt8) (srclen : Int) (n : Nat) (hn : srclen ≤ n) :
    Safe n (unpack mok t m src srclen).2 := by
  unfold unpack
  cases hl : lookup unpackTable t with
  | none => exact Safe.init n m
  | some fl =>
    have := urun_safe mok src srclen n hn fl ⟨[], []⟩ (USt.init m) (hg _ (lookup_entry hl)) (by simp [Inv])
      (Safe.init n m)
    simp only
    generalize urun mok src srclen fl (USt.init m) = x at this
    obtain ⟨rc, st⟩ := x
    cases rc with
    | ok =>
      simp only
      split
      · split <;> exact this
      · exact this
    | err | nomem => exact this

/-- facts about the generated exit codes used by `unpack_cases` (decidable) -/
def codesOk : Bool :=
  EMUNGE_SUCCESS == 0 && unpackOk == EMUNGE_SUCCESS &&
  unpackErr.2 != EMUNGE_SUCCESS && unpackErr.1 % 256 != 0 &&
  unpackNomem.2 != EMUNGE_SUCCESS && unpackNomem.1 % 256 != 0 &&
  postChecks.all (fun c => c.2.2.2 != EMUNGE_SUCCESS && c.2.2.1 % 256 != 0)

theorem setErr_num (h0 : EMUNGE_SUCCESS = 0) (m : Msg) (e : Nat) (s : Option (List UInt8)) (he : e % 256 ≠ 0) :
    (setErr m e s).1.int "error_num" ≠ 0 := by
  rw [setErr_int m e s (by decide), if_pos rfl]
  split
  · exact he
  · next hc => exact fun hz => hc ⟨h0 ▸ hz, fun h => he (by rw [h, h0])⟩

theorem postFail_eq_none (m : Msg) (cs : List (String × Nat × Nat × Nat)) :
    postFail m cs = none ↔ ∀ c ∈ cs, m.int c.1 = c.2.1 := by
  induction cs with
  | nil => simp [postFail]
  | cons c cs ih =>
    obtain ⟨l, v, e, r⟩ := c
    rw [postFail, List.forall_mem_cons, ← ih]
    by_cases h : m.int l = v <;> simp [h]

theorem postFail_mem (m : Msg) : ∀ (cs : List (String × Nat × Nat × Nat)) (x : Nat × Nat),
    postFail m cs = some x → ∃ c ∈ cs, c.2.2 = x := by
  intro cs
  induction cs with
  | nil => intro x h; cases h
  | cons c cs ih =>
    intro x h
    obtain ⟨l, v, e, r⟩ := c
    rw [postFail] at h
    split at h
    · cases h; exact ⟨_, List.mem_cons_self, rfl⟩
    · obtain ⟨c, hc, h1⟩ := ih x h
      exact ⟨c, List.mem_cons_of_mem _ hc, h1⟩

theorem unpack_cases (hc : codesOk = true) (mok : Nat → Bool) (t : Nat) (m : Msg) (src : List UInt8) (srclen : Int) :
    (∃ fl st, lookup unpackTable t = some fl ∧ urun mok src srclen fl (USt.init m) = (.ok, st) ∧
      (t = postCheckType → ∀ c ∈ postChecks, st.m.int c.1 = c.2.1) ∧
      unpack mok t m src srclen = (EMUNGE_SUCCESS, st)) ∨
    ((unpack mok t m src srclen).1 ≠ EMUNGE_SUCCESS ∧ (unpack mok t m src srclen).2.m.int "error_num" ≠ 0) := by
  simp only [codesOk, Bool.and_eq_true, and_assoc, beq_iff_eq, bne_iff_ne, ne_eq, List.all_eq_true] at hc
  obtain ⟨h0, hok, he2, he1, hn2, hn1, hpc⟩ := hc
  unfold unpack
  cases hl : lookup unpackTable t with
  | none => exact .inr ⟨he2, setErr_num h0 _ _ _ he1⟩
  | some fl =>
    simp only
    cases hu : urun mok src srclen fl (USt.init m) with
    | mk rc st =>
      cases rc with
      | ok =>
        simp only
        split
        · cases hp : postFail st.m postChecks with
          | none => exact .inl ⟨fl, st, rfl, hu, fun _ => (postFail_eq_none _ _).mp hp, by rw [hok]⟩
          | some er =>
            obtain ⟨⟨l, v, e, r⟩, hcm, rfl⟩ := postFail_mem _ _ _ hp
            exact .inr ⟨(hpc _ hcm).1, setErr_num h0 _ _ _ (hpc _ hcm).2⟩
        · exact .inl ⟨fl, st, rfl, hu, fun h => absurd h ‹_›, by rw [hok]⟩
      | err => exact .inr ⟨he2, setErr_num h0 _ _ _ he1⟩
      | nomem => exact .inr ⟨hn2, setErr_num h0 _ _ _ hn1⟩

theorem unpack_of_urun_ok {mok : Nat → Bool} {t : Nat} {m : Msg} {src : List UInt8} {srclen : Int} {fl : List Fld}
    {st : USt} (hl : lookup unpackTable t = some fl) (h : urun mok src srclen fl (USt.init m) = (.ok, st))
    (hpost : t = postCheckType → ∀ c ∈ postChecks, st.m.int c.1 = c.2.1) :
    unpack mok t m src srclen = (unpackOk, st) := by
  unfold unpack
  simp only [hl, h]
  split
  · rw [(postFail_eq_none _ _).mpr (hpost ‹_›)]
  · rfl

theorem unpack_of_urun_bad (hc : codesOk = true) {mok : Nat → Bool} {t : Nat} {m : Msg} {src : List UInt8} {srclen : Int}
    {fl : List Fld} (hl : lookup unpackTable t = some fl) (h : (urun mok src srclen fl (USt.init m)).1 ≠ .ok) :
    (unpack mok t m src srclen).1 ≠ EMUNGE_SUCCESS := fun hs => by
  obtain ⟨fl', st, hl', hu, _⟩ := (unpack_cases hc mok t m src srclen).resolve_right (fun h' => h'.1 hs)
  rw [hl] at hl'
  cases hl'
  rw [hu] at h
  exact h rfl

theorem unpack_rrun (hc : codesOk = true) (mok : Nat → Bool) (t : Nat) (ht : t ≠ postCheckType)
    (U : List Fld) (hl : lookup unpackTable t = some U) (m0 : Msg) (body : List UInt8) :
    (∀ r, rrun mok U m0 body = some r → ∃ st, urun mok body (body.length : Int) U (USt.init m0) = (.ok, st) ∧
      unpack mok t m0 body (body.length : Int) = (EMUNGE_SUCCESS, st) ∧ st.m = r.1) ∧
    (rrun mok U m0 body = none → (unpack mok t m0 body (body.length : Int)).1 ≠ EMUNGE_SUCCESS) := by
  obtain ⟨h1, h2⟩ := urun_rrun mok body U (USt.init m0) (Nat.zero_le _)
  refine ⟨fun r hr => ?_, fun hr => unpack_of_urun_bad hc hl (h2 hr)⟩
  obtain ⟨st, hs, hm⟩ := h1 r hr
  exact ⟨st, hs, unpack_of_urun_ok hl hs (fun h => absurd h ht), hm⟩

/-- bytes one link contributes to the packet -/
def chunk (m : Msg) : Fld → List UInt8
  | .int f w => beBytes w (m.int f)
  | .bytes f l d => (m.bytesOf f d).take (m.int l)
  | _ => []

def chunks (m : Msg) : List Fld → List UInt8
  | [] => []
  | f :: fs => chunk m f ++ chunks m fs

/-- the message fits link `fld` (a length fits an `int`) -/
def fldOk (m : Msg) : Fld → Prop
  | .int f w => m.int f < 256 ^ w
  | .bytes f l d => m.int l < 2147483648 ∧ m.int l ≤ (m.bytesOf f d).length
  | .guard l c k => c.eval (m.int l) k = false
  | .alloc _ _ => True
  | .var _ => True

/-- the sender's side condition on a link: `fldOk`, except that nothing is asked of an integer member (`_pack`
    truncates) -/
def pOk (m : Msg) : Fld → Prop
  | .int _ _ => True
  | fld => fldOk m fld

theorem fldOk.pOk {m : Msg} {fld : Fld} (h : fldOk m fld) : pOk m fld := by
  cases fld <;> first | exact h | trivial

/-- a pack chain consists of `_pack` (width 1, 2 or 4), `_copy` and tests only -/
def packable : List Fld → Bool
  | [] => true
  | .int _ w :: fs => okWidth w && packable fs
  | .bytes _ _ _ :: fs => packable fs
  | .guard _ _ _ :: fs => packable fs
  | _ :: _ => false

/-- the links that move data -/
def core : List Fld → List Fld
  | [] => []
  | .int f w :: fs => .int f w :: core fs
  | .bytes f l d :: fs => .bytes f l d :: core fs
  | _ :: fs => core fs

theorem chunks_core (m : Msg) (fl : List Fld) : chunks m (core fl) = chunks m fl := by
  induction fl with
  | nil => rfl
  | cons f fs ih => cases f <;> simp [core, chunks, chunk, ih]

theorem pstep_ok (dstlen : Int) (m : Msg) (out : List UInt8) {fld : Fld} {fs : List Fld}
    (hp : packable (fld :: fs) = true) (hok : pOk m fld)
    (hlen : ((out.length + (chunk m fld).length : Nat) : Int) ≤ dstlen) :
    pstep dstlen m out fld = (.ok, out ++ chunk m fld) ∧ packable fs = true := by
  cases fld with
  | int f w =>
    simp only [packable, Bool.and_eq_true] at hp
    simp only [chunk, beBytes_length] at hlen
    simp only [pstep, hp.1, if_neg (show ¬ ((out.length : Int) + w > dstlen) by omega)]
    exact ⟨rfl, hp.2⟩
  | bytes f l d =>
    have htl : ((m.bytesOf f d).take (m.int l)).length = m.int l := List.length_take_of_le hok.2
    simp only [chunk, htl] at hlen
    simp only [pstep, cInt_small hok.1, chunk]
    rw [if_neg (by omega)]
    split
    · rw [show m.int l = 0 by omega, List.take_zero, List.append_nil]; exact ⟨rfl, hp⟩
    · rw [if_neg (by omega), Int.toNat_natCast]; exact ⟨rfl, hp⟩
  | guard l c k =>
    simp only [pstep, show c.eval (m.int l) k = false from hok, chunk, List.append_nil]
    exact ⟨rfl, hp⟩
  | alloc f l | var l => simp [packable] at hp

theorem prun_ok (dstlen : Int) (m : Msg) :
    ∀ (P : List Fld) (out : List UInt8), packable P = true → (∀ fld ∈ P, pOk m fld) →
      ((out.length + (chunks m P).length : Nat) : Int) ≤ dstlen →
      prun dstlen m P out = (.ok, out ++ chunks m P) := by
  intro P
  induction P with
  | nil => intro out _ _ _; simp [prun, chunks]
  | cons fld fs ih =>
    intro out hp hok hlen
    rw [List.forall_mem_cons] at hok
    simp only [chunks, List.length_append] at hlen
    obtain ⟨hs, hp'⟩ := pstep_ok dstlen m out hp hok.1 (by omega)
    rw [prun, hs]
    simp only
    rw [ih _ hp' hok.2 (by rw [List.length_append]; omega), chunks, List.append_assoc]

/-- what a link adds to the length of the packet: a constant width, or the value of a length member -/
def lenShape : Fld → Option (Nat ⊕ String)
  | .int _ w => some (.inl w)
  | .bytes _ l _ => some (.inr l)
  | .var l => some (.inr l)
  | _ => none

/-- the length of the packet of message `m`, summed over the `lenShape`s of a list -/
def shapeSum (m : Msg) : List (Nat ⊕ String) → Nat
  | [] => 0
  | .inl w :: r => w + shapeSum m r
  | .inr l :: r => m.int l + shapeSum m r

/-- a length list consists of `n += sizeof …` and `n += m->len` only -/
def lengthList : List Fld → Bool
  | [] => true
  | .int _ _ :: fs => lengthList fs
  | .var _ :: fs => lengthList fs
  | _ :: _ => false

theorem chunks_length (m : Msg) : ∀ (P : List Fld), packable P = true → (∀ fld ∈ P, pOk m fld) →
    (chunks m P).length = shapeSum m (P.filterMap lenShape) := by
  intro P
  induction P with
  | nil => intro _ _; rfl
  | cons fld fs ih =>
    intro hp hok
    obtain ⟨hfld, hok'⟩ := List.forall_mem_cons.mp hok
    cases fld with
    | int f w =>
      simp only [packable, Bool.and_eq_true] at hp
      simp [chunks, chunk, lenShape, shapeSum, beBytes_length, ih hp.2 hok']
    | bytes f l d =>
      simp [chunks, chunk, lenShape, shapeSum, ih hp hok', List.length_take_of_le hfld.2]
    | guard l c k => simp [chunks, chunk, lenShape, List.filterMap_cons, ih hp hok']
    | alloc f l | var l => simp [packable] at hp

theorem lengthRun_eq (m : Msg) : ∀ (L : List Fld) (n : Int), lengthList L = true → 0 ≤ n →
    n + (shapeSum m (L.filterMap lenShape) : Nat) < 2147483648 →
    lengthRun m L n = n + (shapeSum m (L.filterMap lenShape) : Nat) := by
  intro L
  induction L with
  | nil => intro n _ _ _; simp [lengthRun, shapeSum]
  | cons fld fs ih =>
    intro n hl h0 hlt
    cases fld <;> simp only [lengthList, Bool.false_eq_true] at hl <;>
      simp only [List.filterMap_cons, lenShape, shapeSum] at hlt ⊢ <;>
      rw [lengthRun, wrapS32_id (by omega) (by omega), ih _ hl (by omega) (by omega)] <;> omega

/-- every length member used by a link has been unpacked earlier in the chain, so the receiver acts on the sender's
    value -/
def seenOk (S : List String) : List Fld → Bool
  | [] => true
  | .int f w :: fs => okWidth w && seenOk (f :: S) fs
  | .alloc _ l :: fs => S.contains l && seenOk S fs
  | .bytes _ l _ :: fs => S.contains l && seenOk S fs
  | .guard l _ _ :: fs => S.contains l && seenOk S fs
  | .var _ :: _ => false

/-- once a variable-length member has been filled, no later link allocates or fills it again -/
def noClobber : List Fld → Bool
  | [] => true
  | .bytes f _ _ :: fs => !(fs.any (touches f)) && noClobber fs
  | _ :: fs => noClobber fs

/-- link `fld` of message `m'` carries the value it has in `m` (a variable-length member is
    compared over its length) -/
def got (m m' : Msg) : Fld → Prop
  | .int f _ => m'.int f = m.int f
  | .bytes f l d => (m'.bytesOf f d).take (m.int l) = (m.bytesOf f d).take (m.int l)
  | _ => True

/-- the receiver's side condition on a link -/
def ufldOk (m : Msg) : Fld → Prop
  | .alloc _ l => m.int l < 2147483648
  | fld => fldOk m fld

theorem setInt_agree {m m' : Msg} {S : List String} (f : String) (hS : ∀ g ∈ S, m'.int g = m.int g) :
    ∀ g ∈ f :: S, (m'.setInt f (m.int f)).int g = m.int g := by
  intro g hg
  rw [setInt_int]
  split
  · subst g; rfl
  · exact hS g ((List.mem_cons.mp hg).resolve_left ‹_›)

theorem rrun_chunks (mok : Nat → Bool) (hmok : ∀ n, mok n = true) (m : Msg) :
    ∀ (U : List Fld) (S : List String) (m' : Msg) (post : List UInt8),
      seenOk S U = true → noClobber U = true → (∀ fld ∈ U, ufldOk m fld) →
      (∀ f ∈ S, m'.int f = m.int f) →
      ∃ r, rrun mok U m' (chunks m U ++ post) = some (r, post) ∧
        (∀ f ∈ S, r.int f = m.int f) ∧ (∀ fld ∈ U, got m r fld) := by
  intro U
  induction U with
  | nil => intro S m' post _ _ _ hS; exact ⟨m', rfl, hS, by simp⟩
  | cons fld fs ih =>
    intro S m' post hseen hclob hok hS
    obtain ⟨hfld, hokfs⟩ := List.forall_mem_cons.mp hok
    simp only [chunks, List.append_assoc, rrun, List.forall_mem_cons]
    cases fld <;> simp only [seenOk, noClobber, Bool.and_eq_true, List.contains_iff_mem, Bool.not_eq_true',
      Bool.false_eq_true] at hseen hclob
    case int f w =>
      have hstep : rstep mok m' (chunk m (.int f w) ++ (chunks m fs ++ post)) (.int f w) =
          some (m'.setInt f (m.int f), chunks m fs ++ post) := by
        simp only [rstep, chunk, List.length_append, beBytes_length, hseen.1,
          List.take_left' (beBytes_length _ _), List.drop_left' (beBytes_length _ _), beVal_beBytes,
          Nat.mod_eq_of_lt hfld]
        rw [if_neg (by simp)]
      rw [hstep, Option.bind_some]
      obtain ⟨r, hr, hS', hgot⟩ := ih (f :: S) _ post hseen.2 hclob hokfs (setInt_agree f hS)
      exact ⟨r, hr, fun g hg => hS' g (List.mem_cons_of_mem _ hg), hS' f List.mem_cons_self, hgot⟩
    case alloc f l =>
      have hc : cInt (m'.int l) = m.int l := by rw [hS l hseen.1]; exact cInt_small hfld
      have hstep : ∃ m1, rstep mok m' (chunks m fs ++ post) (.alloc f l) = some (m1, chunks m fs ++ post) ∧
          m1.int = m'.int := by
        simp only [rstep, hc, hmok]
        split
        · exact ⟨_, rfl, rfl⟩
        · rw [if_neg (by omega)]; exact ⟨_, rfl, rfl⟩
      obtain ⟨m1, hstep, hint⟩ := hstep
      simp only [chunk, List.nil_append]
      rw [hstep, Option.bind_some]
      obtain ⟨r, hr, hS', hgot⟩ := ih S m1 post hseen.2 hclob hokfs (hint ▸ hS)
      exact ⟨r, hr, hS', trivial, hgot⟩
    case bytes f l d =>
      simp only [ufldOk, fldOk] at hfld
      obtain ⟨hlt, hle⟩ := hfld
      have hc : cInt (m'.int l) = m.int l := by rw [hS l hseen.1]; exact cInt_small hlt
      have htl : ((m.bytesOf f d).take (m.int l)).length = m.int l := List.length_take_of_le hle
      have hstep : ∃ m1, rstep mok m' (chunk m (.bytes f l d) ++ (chunks m fs ++ post)) (.bytes f l d) =
            some (m1, chunks m fs ++ post) ∧ m1.int = m'.int ∧
          (m1.bytesOf f d).take (m.int l) = (m.bytesOf f d).take (m.int l) := by
        simp only [rstep, chunk, hc, Int.toNat_natCast, List.length_append, htl, List.take_left' htl,
          List.drop_left' htl]
        rw [if_neg (by omega)]
        split
        · have h0 : m.int l = 0 := by omega
          exact ⟨m', by simp [h0], rfl, by simp [h0]⟩
        · rw [if_neg (by omega)]
          cases d with
          | heap => exact ⟨_, rfl, rfl, by simp [Msg.bytesOf, Msg.setBuf, List.take_take]⟩
          | fixed cap =>
            exact ⟨_, rfl, rfl, by
              simp only [Msg.bytesOf, Msg.setFix, if_true]; exact List.take_left' htl⟩
      obtain ⟨m1, hstep, hint, hgot1⟩ := hstep
      rw [hstep, Option.bind_some]
      obtain ⟨r, hr, hS', hgot⟩ := ih S m1 post hseen.2 hclob.2 hokfs (hint ▸ hS)
      refine ⟨r, hr, hS', ?_, hgot⟩
      -- nothing after this link touches the member it filled
      show (r.bytesOf f d).take _ = _
      rw [bytesOf_congr (rrun_frame mok f fs m1 _ _ hclob.1 hr)]
      exact hgot1
    case guard l c k =>
      have hstep : rstep mok m' (chunks m fs ++ post) (.guard l c k) = some (m', chunks m fs ++ post) := by
        simp only [rstep, hS l hseen.1, show c.eval (m.int l) k = false from hfld]; rfl
      simp only [chunk, List.nil_append]
      rw [hstep, Option.bind_some]
      obtain ⟨r, hr, hS', hgot⟩ := ih S m' post hseen.2 hclob hokfs hS
      exact ⟨r, hr, hS', trivial, hgot⟩

/-- the header checks after the switch test locals the chain has unpacked, against the very values
    `_msg_pack` initialises them with -/
def postOk (U : List Fld) : Bool :=
  postChecks.all (fun c => U.any (isIntNamed c.1) && packInits.contains (c.1, c.2.1))

/-- what the round-trip proof needs from the three lists of message type `t` (decidable) -/
def typeOk (t : Nat) (L P U : List Fld) : Bool :=
  lengthList L && packable P && decide (core P = core U) &&
  decide (L.filterMap lenShape = P.filterMap lenShape) && seenOk [] U && noClobber U &&
  (t != postCheckType || postOk U)

theorem foldl_setInt_self : ∀ (inits : List (String × Nat)) (m : Msg), (∀ e ∈ inits, m.int e.1 = e.2) →
    inits.foldl (fun m e => m.setInt e.1 e.2) m = m := by
  intro inits
  induction inits with
  | nil => intro m _; rfl
  | cons e es ih =>
    intro m h
    simp only [List.foldl_cons]
    rw [setInt_self m e.1 e.2 (h e List.mem_cons_self)]
    exact ih m (fun e' he' => h e' (List.mem_cons_of_mem _ he'))

theorem withLocals_self (m : Msg) (h : ∀ e ∈ packInits, m.int e.1 = e.2) : withLocals m = m :=
  foldl_setInt_self packInits m h

/-- the message is one a sender may hold for lists `P` (pack) and `U` (unpack); the header locals have the values
    `_msg_pack` gives them -/
def WellFormedFor (P U : List Fld) (m : Msg) : Prop :=
  (∀ e ∈ packInits, m.int e.1 = e.2) ∧ (∀ fld ∈ P, fldOk m fld) ∧ (∀ fld ∈ U, ufldOk m fld) ∧
  shapeSum m (P.filterMap lenShape) < 2147483648

theorem length_eq_shapeSum (t : Nat) (L P : List Fld) (m : Msg) (hL : lookup lengthTable t = some L)
    (hLL : lengthList L = true) (hshape : L.filterMap lenShape = P.filterMap lenShape)
    (hsz : shapeSum m (P.filterMap lenShape) < 2147483648) :
    length t m = (shapeSum m (P.filterMap lenShape) : Nat) := by
  unfold length
  rw [hL]
  simp only
  rw [lengthRun_eq m L 0 hLL (Int.le_refl 0) (by rw [hshape]; omega), hshape]
  omega

theorem pack_eq (t : Nat) (P : List Fld) (m : Msg) (dstlen : Int) (hP : lookup packTable t = some P)
    (hPk : packable P = true) (hok : ∀ fld ∈ P, pOk (withLocals m) fld)
    (hlen : ((chunks (withLocals m) P).length : Int) ≤ dstlen) :
    pack t m dstlen = (packOk, m, chunks (withLocals m) P) := by
  unfold pack
  rw [hP]
  simp only
  rw [prun_ok dstlen _ P [] hPk hok (by simpa using hlen)]
  simp

theorem pack_ok_msg (hpe : packErr.2 ≠ EMUNGE_SUCCESS) (t : Nat) (m : Msg) (n : Int)
    (h : (pack t m n).1 = EMUNGE_SUCCESS) : (pack t m n).2.1 = m := by
  unfold pack at h ⊢
  generalize lookup packTable t = o at h ⊢
  cases o with
  | none => exact absurd h hpe
  | some fl =>
    simp only at h ⊢
    generalize prun n (withLocals m) fl [] = x at h ⊢
    obtain ⟨rc, out⟩ := x
    cases rc with
    | ok => rfl
    | err | nomem => exact absurd h hpe

theorem roundtrip_gen (mok : Nat → Bool) (hmok : ∀ n, mok n = true) (t : Nat) (L P U : List Fld)
    (hL : lookup lengthTable t = some L) (hP : lookup packTable t = some P) (hU : lookup unpackTable t = some U)
    (hok : typeOk t L P U = true)
    (m m0 : Msg) (hwf : WellFormedFor P U m) (extra : List UInt8) :
    length t m = ((chunks m P).length : Nat) ∧
    pack t m (length t m) = (packOk, m, chunks m P) ∧
    ∃ st, unpack mok t m0 (chunks m P ++ extra) ((chunks m P ++ extra).length : Nat) = (unpackOk, st) ∧
      ∀ fld ∈ U, got m st.m fld := by
  simp only [typeOk, Bool.and_eq_true, and_assoc, decide_eq_true_eq, Bool.or_eq_true, bne_iff_ne] at hok
  obtain ⟨hLL, hPk, hcore, hshape, hseen, hclob, hpost⟩ := hok
  obtain ⟨hloc, hPok, hUok, hsize⟩ := hwf
  replace hPok : ∀ fld ∈ P, pOk m fld := fun fld hf => (hPok fld hf).pOk
  have hlenP := chunks_length m P hPk hPok
  have hlen : length t m = ((chunks m P).length : Nat) := by
    rw [length_eq_shapeSum t L P m hL hLL hshape hsize, hlenP]
  have hw := withLocals_self m hloc
  refine ⟨hlen, ?_, ?_⟩
  · have := pack_eq t P m (length t m) hP hPk (hw.symm ▸ hPok) (by rw [hw, hlen]; exact Int.le_refl _)
    rwa [hw] at this
  · have hch : chunks m P = chunks m U := by rw [← chunks_core m P, hcore, chunks_core]
    obtain ⟨r, hr, _, hgot⟩ := rrun_chunks mok hmok m U [] m0 extra hseen hclob hUok (by simp)
    obtain ⟨st, hrun, hm⟩ := (urun_rrun mok (chunks m P ++ extra) U (USt.init m0) (Nat.zero_le _)).1 _
      (by rw [hch]; exact hr)
    replace hgot : ∀ fld ∈ U, got m st.m fld := hm ▸ hgot
    refine ⟨st, unpack_of_urun_ok hU hrun (fun ht c hc => ?_), hgot⟩
    have hpo := hpost.resolve_left (fun h => h ht)
    simp only [postOk, List.all_eq_true, Bool.and_eq_true, List.any_eq_true, List.contains_iff_mem] at hpo
    obtain ⟨⟨fld, hmem, hnamed⟩, hinit⟩ := hpo c hc
    obtain ⟨w, rfl⟩ := isIntNamed_iff.mp hnamed
    exact (hgot _ hmem).trans (hloc _ hinit)

/-- `pred` holds of every message type's three lists (and every type with an unpack list has all three) -/
def tablesAll (pred : Nat → List Fld → List Fld → List Fld → Bool) : Bool :=
  unpackTable.all (fun e =>
    match lookup lengthTable e.1, lookup packTable e.1 with
    | some L, some P => pred e.1 L P e.2
    | _, _ => false)

theorem tablesAll_spec {pred : Nat → List Fld → List Fld → List Fld → Bool} (h : tablesAll pred = true)
    {t : Nat} {U : List Fld} (hU : lookup unpackTable t = some U) :
    ∃ L P, lookup lengthTable t = some L ∧ lookup packTable t = some P ∧ pred t L P U = true := by
  have := (List.all_eq_true.mp h) (t, U) (lookup_entry hU)
  split at this
  · next L P hL hP => exact ⟨L, P, hL, hP, this⟩
  · cases this

/-- the member a write `m.<member> = v` of a translated kernel names -/
def wname (w : String × Int) : String := String.ofList (w.1.toList.drop 2)

/-- the value the write `w` gives the integer member `f`, if it writes to it -/
def intW (f : String) (w : String × Int) : Option Nat :=
  if ptrMembers.contains (wname w) then none else if wname w = f then some w.2.toNat else none

/-- the value the last of the writes `ws` to the integer member `f` gives it, if one writes to it -/
def lastInt (f : String) : List (String × Int) → Option Nat
  | [] => none
  | w :: ws => (lastInt f ws).or (intW f w)

/-- the write `w` sets the pointer member `f` to NULL -/
def isNull (f : String) (w : String × Int) : Bool := ptrMembers.contains (wname w) && w.2 == 0 && f == wname w

/-- one of the writes `ws` sets the pointer member `f` to NULL (`applyWrite` lets no write make it non-NULL again) -/
def nullW (f : String) (ws : List (String × Int)) : Bool := ws.any (isNull f)

theorem applyWrite_eq (m : Msg) (w : String × Int) :
    applyWrite m w = if ptrMembers.contains (wname w) then (if w.2 = 0 then m.setBuf (wname w) none else m)
      else m.setInt (wname w) w.2.toNat := rfl

theorem applyWrite_int (m : Msg) (w : String × Int) (f : String) :
    (applyWrite m w).int f = (intW f w).getD (m.int f) := by
  rw [applyWrite_eq, intW]
  split
  · split <;> rfl
  · by_cases h : wname w = f
    · rw [if_pos h, setInt_int, h, if_pos rfl]; rfl
    · rw [if_neg h, setInt_int, if_neg (Ne.symm h)]; rfl

theorem foldl_applyWrite_int (f : String) : ∀ (ws : List (String × Int)) (m : Msg),
    (ws.foldl applyWrite m).int f = (lastInt f ws).getD (m.int f) := by
  intro ws
  induction ws with
  | nil => intro m; rfl
  | cons w ws ih =>
    intro m
    rw [List.foldl_cons, ih, applyWrite_int, lastInt, Option.getD_or]

theorem applyWrite_buf (m : Msg) (w : String × Int) (f : String) :
    (applyWrite m w).buf f = if isNull f w then none else m.buf f := by
  rw [applyWrite_eq, isNull]
  cases ptrMembers.contains (wname w) with
  | false => rfl
  | true =>
    by_cases hz : w.2 = 0
    · simp only [hz, if_true, Msg.setBuf, beq_self_eq_true, Bool.and_self, Bool.true_and, beq_iff_eq]
    · simp only [if_true, if_neg hz, beq_eq_false_iff_ne.mpr hz, Bool.and_false, Bool.false_and, Bool.false_eq_true,
        if_false]

theorem foldl_applyWrite_buf (f : String) : ∀ (ws : List (String × Int)) (m : Msg),
    (ws.foldl applyWrite m).buf f = if nullW f ws then none else m.buf f := by
  intro ws
  induction ws with
  | nil => intro m; rfl
  | cons w ws ih =>
    intro m
    rw [List.foldl_cons, ih, applyWrite_buf]
    unfold nullW
    rw [List.any_cons]
    cases isNull f w <;> cases ws.any (isNull f) <;> rfl

end Munge.Wire
