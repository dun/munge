import Munge.Lemmas.CredMsg
import Munge.Lemmas.CredParse
import Munge.Lemmas.DecKernels
/-
`dec_process_msg`, stage by stage (`decFront`, `decMid`, `decTail` with its last stage `decReplay`) and as a whole: which
exit a decode takes and what the message carries there.  `decProcess_stages` takes a decode through front and middle by
their specs; `decProcess_spec` adds the tail, `decProcess_exit` forgets everything but the exit, `decProcess_any` everything
but what all exits share.  The statements of C02, C08 (model part) and C09 about `decProcess` are read off these and
`decProcess_of_not_authentic`.
-/
namespace Munge.Cred
open Munge.Gen.Dec Munge.C

/-- The `goto err` exit of `dec_process_msg` for a hard error: `m_msg_reset` before the reply, nothing recorded in the
    replay set.  `m'` is the message at the jump; its code is a hard one unless an error was already pending on entry
    (`err0 ≠ 0`: `m_msg_set_err` keeps the first error). -/
def HardExit (rs : ReplaySet) (retry err0 : Nat) (o : DecOut) : Prop :=
  ∃ m', o = decFail rs m' ∧ m'.retry = retry ∧ m'.errorNum ≠ 0 ∧ (err0 = 0 → Hard m'.errorNum)

theorem hardExit_setErr {rs : ReplaySet} {m : Msg} {retry err0 : Nat} {e : Int} {s : Option String}
    (hr : m.retry = retry) (h0 : m.errorNum = err0) (he : Hard e) : HardExit rs retry err0 (decFail rs (setErr m e s)) := by
  subst hr h0
  refine ⟨_, rfl, setErr_retry _ _ _, setErr_errorNum_ne_zero _ _ he.1, fun h0 => ?_⟩
  rw [(setErr_of_zero m s h0 (by have := he.1; omega)).1, Int.toNat_of_nonneg (by have := he.1; omega)]
  exact he

theorem hard_of_out {k : KOut} {c : Int} (h : (k.ret = 0 ∧ k.err = 0) ∨ (k.ret = -1 ∧ k.err = c)) (hv : k.ret < 0)
    (hc : Hard c) : Hard k.err := by
  rw [err_of_out h hv]; exact hc

theorem unarmor_hard (m : Msg) (e : Int × String) (h : unarmor m = .error e) : Hard e.1 := by
  unfold unarmor at h
  simp only [] at h
  split at h
  · cases h; decide
  split at h
  · cases h; decide
  split at h
  · cases h; decide
  split at h
  · cases h; decide
  · cases h

/-- What a successful front part leaves in the message: the clock and the peer's identity `uid`, `gid` are written, the
    request's data is released, and `unpackOuter` has written its five fields (`OuterPost`); nothing else changes. -/
structure FrontOk (P : Prims) (env : Env) (m0 : Msg) (uid gid : Nat) (m : Msg) : Prop where
  peer : env.peer = some (uid, gid)
  frame : m = { m0 with time0 := 0, time1 := (wrapU32 env.now).toNat, clientUid := uid, clientGid := gid, data := [], dataLen := 0,
                        cipher := m.cipher, mac := m.mac, zip := m.zip, realm := m.realm, realmLen := m.realmLen }
  macValid : P.macValid m.mac = true
  realm : m.realmLen ≤ m.realm.length

def FrontSpec (P : Prims) (env : Env) (rs : ReplaySet) (m0 : Msg) : DecOut ⊕ (Msg × Scratch) → Prop
  | .inl o => HardExit rs m0.retry m0.errorNum o
  | .inr (m, _) => ∃ uid gid, FrontOk P env m0 uid gid m

theorem decFront_spec (P : Prims) (env : Env) (rs : ReplaySet) (m0 : Msg) :
    FrontSpec P env rs m0 (decFront P env rs m0) := by
  unfold decFront
  refine iteInduction (fun hv => ?_) fun _ => ?_
  · exact hardExit_setErr rfl rfl (hard_of_out (dec_validate_msg_out _ _).2 hv (by decide))
  refine iteInduction (fun _ => hardExit_setErr rfl rfl (by decide)) fun _ => ?_
  generalize hp : env.peer = pr
  rcases pr with _ | ⟨uid, gid⟩
  · exact hardExit_setErr rfl rfl (by decide)
  refine iteInduction (fun hv => ?_) fun _ => ?_
  · exact hardExit_setErr rfl rfl (hard_of_out (dec_check_retry_out _ _ _).2 hv (by decide))
  generalize hu : unarmor _ = u
  rcases u with e | raw
  · exact hardExit_setErr rfl rfl (unarmor_hard _ _ hu)
  simp only []
  have hs := unpackOuter_spec P { m0 with time0 := 0, time1 := (wrapU32 env.now).toNat, clientUid := uid, clientGid := gid,
                                          data := [], dataLen := 0 } raw
  generalize unpackOuter P _ raw = t at hs
  rcases t with ⟨m, s⟩ | e | _
  · exact ⟨uid, gid, hp, hs.frame, hs.macValid, hs.realm⟩
  · exact hardExit_setErr rfl rfl hs
  · exact hs.elim

/-- padding removal succeeded (nothing to remove for cipher none) -/
def PadOk (P : Prims) (cf : Conf) (m : Msg) (s : Scratch) : Prop :=
  m.cipher ≠ 0 → (P.decrypt m.cipher (P.mac m.mac cf.dekKey s.mac) s.iv s.inner).2 = true
instance (P : Prims) (cf : Conf) (m : Msg) (s : Scratch) : Decidable (PadOk P cf m s) := by unfold PadOk; infer_instance

/-- What `dec_validate_mac` establishes before anything of the interior is used: the received MAC is the MAC, under the
    daemon's key, of OUTER ‖ decrypted (still compressed) INNER, and `dec_decrypt` did not defer a padding error. -/
def Authentic (P : Prims) (cf : Conf) (m : Msg) (s : Scratch) : Prop :=
  P.mac m.mac cf.macKey (s.outer ++ (decDecrypt P cf m s).2.inner) = s.mac ∧ PadOk P cf m s
instance (P : Prims) (cf : Conf) (m : Msg) (s : Scratch) : Decidable (Authentic P cf m s) := by unfold Authentic; infer_instance

theorem decDecrypt_eq (P : Prims) (cf : Conf) (m : Msg) (s : Scratch) :
    decDecrypt P cf m s = (if PadOk P cf m s then m else setErr m EMUNGE_CRED_INVALID none,
                           { s with inner := (decDecrypt P cf m s).2.inner }) := by
  unfold decDecrypt PadOk
  by_cases hc : m.cipher = 0
  · simp only [hc, if_true, ne_eq, not_true_eq_false, false_implies]
  · simp only [hc, if_false, ne_eq, not_false_eq_true, true_implies]

theorem decDecrypt_inner (P : Prims) (cf : Conf) (m : Msg) (s : Scratch) : (decDecrypt P cf m s).2.inner =
    if m.cipher = 0 then s.inner else (P.decrypt m.cipher (P.mac m.mac cf.dekKey s.mac) s.iv s.inner).1 := by
  unfold decDecrypt
  split <;> rfl

theorem decValidateMac_ok (P : Prims) (cf : Conf) (m m' : Msg) (s : Scratch)
    (h : decValidateMac P cf m s = .ok m') :
    m' = m ∧ P.mac m.mac cf.macKey (s.outer ++ s.inner) = s.mac ∧ m.errorNum = 0 := by
  unfold decValidateMac at h
  dsimp only at h
  split at h
  · cases h
  split at h
  · cases h
  · rename_i h1 h2
    cases h
    exact ⟨rfl, Decidable.not_not.mp fun hne => h1 (.inr hne), Decidable.not_not.mp h2⟩

/-- `dec_decrypt` and `dec_validate_mac` together are one test with one error: an error pending on entry, a padding
    failure (deferred by `dec_decrypt`) and a MAC mismatch all leave with what `m_msg_set_err (CRED_INVALID, NULL)` makes
    of the message as it came in. -/
theorem decValidateMac_decrypt (P : Prims) (cf : Conf) (m : Msg) (s : Scratch) :
    decValidateMac P cf (decDecrypt P cf m s).1 (decDecrypt P cf m s).2 =
      if Authentic P cf m s ∧ s.mac.length = s.macLen ∧ m.errorNum = 0 then .ok m
      else .error (setErr m EMUNGE_CRED_INVALID none) := by
  have hA : Authentic P cf m s ↔
      (P.mac m.mac cf.macKey (s.outer ++ (decDecrypt P cf m s).2.inner) = s.mac ∧ PadOk P cf m s) := Iff.rfl
  rw [decDecrypt_eq]
  generalize (decDecrypt P cf m s).2.inner = plain at hA ⊢
  unfold decValidateMac
  by_cases h0 : m.errorNum = 0
  case neg =>
    rw [setErr_of_nonzero _ _ _ h0, ite_self, setErr_of_nonzero _ _ _ h0, if_pos h0, ite_self, if_neg fun hg => h0 hg.2.2]
  by_cases hp : PadOk P cf m s
  case neg =>
    have h14 : (setErr m EMUNGE_CRED_INVALID none).errorNum ≠ 0 := setErr_errorNum_ne_zero _ _ (by decide)
    rw [if_neg hp, setErr_of_nonzero _ _ _ h14, if_pos h14, ite_self, if_neg fun hg => hp (hA.mp hg.1).2]
  rw [if_pos hp]
  by_cases hbad : (P.mac m.mac cf.macKey (s.outer ++ plain)).length ≠ s.macLen ∨ P.mac m.mac cf.macKey (s.outer ++ plain) ≠ s.mac
  · rw [if_pos hbad, if_neg]
    intro ⟨ha, hl, _⟩
    have hm := (hA.mp ha).1
    exact hbad.elim (fun h => h (hm ▸ hl)) fun h => h hm
  · have hm : P.mac m.mac cf.macKey (s.outer ++ plain) = s.mac := Decidable.not_not.mp fun h => hbad (.inr h)
    rw [if_neg hbad, if_neg fun h => h h0, if_pos ⟨hA.mpr ⟨hm, hp⟩, Decidable.not_not.mp fun h => hbad (.inl (hm ▸ h)), h0⟩]

/-- the middle part behind its one gate: decompress and parse the plaintext `dec_decrypt` left -/
theorem decMid_eq (P : Prims) (cf : Conf) (rs : ReplaySet) (m : Msg) (s : Scratch) : decMid P cf rs m s =
    if Authentic P cf m s ∧ s.mac.length = s.macLen ∧ m.errorNum = 0 then
      match decDecompress P m { s with inner := (decDecrypt P cf m s).2.inner } with
      | .error e => .inl (decFail rs (setErr m e.1 e.2))
      | .ok s' =>
        match unpackInner m s'.inner with
        | .oob => .inl { (decFail rs m) with oob := true }
        | .err e => .inl (decErr rs m e)
        | .ok m' => .inr (m', s')
    else .inl (decFail rs (setErr m EMUNGE_CRED_INVALID none)) := by
  unfold decMid
  have hv := decValidateMac_decrypt P cf m s
  have h2 : (decDecrypt P cf m s).2 = { s with inner := (decDecrypt P cf m s).2.inner } :=
    congrArg Prod.snd (decDecrypt_eq P cf m s)
  dsimp only at hv ⊢
  rw [hv, ← h2]
  by_cases hg : Authentic P cf m s ∧ s.mac.length = s.macLen ∧ m.errorNum = 0
  · rw [if_pos hg, if_pos hg]; rfl
  · rw [if_neg hg, if_neg hg]

theorem decDecompress_hard (P : Prims) (m : Msg) (s : Scratch) (e : Int × Option String)
    (h : decDecompress P m s = .error e) : Hard e.1 := by
  unfold decDecompress at h
  simp only [] at h
  split at h
  · cases h
  split at h
  · cases h; decide
  split at h
  · cases h; decide
  · cases h

/-- what a successful middle part has established (`authentic`) and written (`inner`) -/
structure MidOk (P : Prims) (cf : Conf) (m : Msg) (s : Scratch) (m' : Msg) (s' : Scratch) : Prop where
  authentic : Authentic P cf m s
  noerr : m.errorNum = 0
  inner : InnerPost m s'.inner m'

def MidSpec (P : Prims) (cf : Conf) (rs : ReplaySet) (m : Msg) (s : Scratch) : DecOut ⊕ (Msg × Scratch) → Prop
  | .inl o => HardExit rs m.retry m.errorNum o
  | .inr (m', s') => MidOk P cf m s m' s'

theorem decMid_spec (P : Prims) (cf : Conf) (rs : ReplaySet) (m : Msg) (s : Scratch) :
    MidSpec P cf rs m s (decMid P cf rs m s) := by
  rw [decMid_eq]
  by_cases hg : Authentic P cf m s ∧ s.mac.length = s.macLen ∧ m.errorNum = 0
  case neg => rw [if_neg hg]; exact hardExit_setErr rfl rfl (by decide)
  rw [if_pos hg]
  generalize hz : decDecompress P m _ = z
  rcases z with e | s2
  · exact hardExit_setErr rfl rfl (decDecompress_hard _ _ _ _ hz)
  dsimp only
  have hs := unpackInner_spec m s2.inner
  generalize unpackInner m s2.inner = t at hs
  rcases t with m3 | e | _
  · exact ⟨hg.1, hg.2.2, hs⟩
  · exact hardExit_setErr rfl rfl hs
  · exact hs.elim

/-- what every exit of `dec_process_msg` guarantees -/
structure AnyExit (rs : ReplaySet) (o : DecOut) : Prop where
  oob : o.oob = false
  failed : o.rc ≠ 0 → o.msg.errorNum ≠ 0 ∧ o.replay = rs
  ok : o.rc = 0 → ∃ k, o.key = some k ∧ o.replay = if o.inserted then k :: rs else rs

/-- the other exits of `dec_process_msg`: success, or a soft error (expired / rewound / replayed), which is sent
    without a reset -/
structure SoftExit (rs : ReplaySet) (o : DecOut) : Prop extends AnyExit rs o where
  code : Soft o.msg.errorNum

theorem softExit_setErr (rs : ReplaySet) {m : Msg} {e : Int} (k : Option ReplayKey)
    (h0 : m.errorNum = 0) (he : e = 15 ∨ e = 16 ∨ e = 17) :
    SoftExit rs { msg := setErr m e none, rc := -1, inserted := false, key := k, replay := rs } := by
  have h1 := (setErr_of_zero m none h0 (by omega : e ≠ 0)).1
  refine ⟨⟨rfl, fun _ => ⟨?_, rfl⟩, fun h => absurd h (by dsimp only; decide)⟩, ?_⟩
  · simp only [h1]
    omega
  · simp only [Soft, h1, EMUNGE_CRED_EXPIRED, EMUNGE_CRED_REWOUND, EMUNGE_CRED_REPLAYED]
    omega

/-- the last stage of `decTail` (`dec_validate_replay`) on the message with its TTL already capped -/
def decReplay (cf : Conf) (rs : ReplaySet) (m : Msg) (s : Scratch) : DecOut :=
  let key := replayKey m s
  let present := rs.contains key
  let ins : Int := if present then 1 else 0
  let rs' := if present then rs else key :: rs
  let rp := dec_validate_replay m.retry (b2int cf.gotSocketRetry) 0 m.clientUid m.clientGid ins
  if rp.ret < 0 then { msg := setErr m rp.err none, rc := -1, inserted := false, key := some key, replay := rs' }
  else { msg := m, rc := 0, inserted := ¬ present, key := some key, replay := rs' }

/-- the tail by its three stages: authorisation (refusal is a hard error), the validity window (a soft one, on the message
    with its TTL already capped), replay -/
theorem decTail_eq (cf : Conf) (env : Env) (rs : ReplaySet) (m : Msg) (s : Scratch) : decTail cf env rs m s =
    let a := dec_validate_auth m.authUid m.authGid m.clientUid m.clientGid (b2int cf.gotRootAuth)
      (fun u g => b2int (env.member u.toNat g.toNat))
    let t := dec_validate_time m.ttl m.time0 m.time1 cf.maxTtl (b2int cf.gotClockSkew)
    let mc := { m with ttl := (t.get "c.msg.ttl" m.ttl).toNat }
    if a.ret < 0 then
      decErr rs m (a.err, s!"Unauthorized credential for client UID={m.clientUid} GID={m.clientGid}")
    else if t.ret < 0 then { msg := setErr mc t.err none, rc := -1, inserted := false, key := none, replay := rs }
    else decReplay cf rs mc s := rfl

/-- The replay stage by cases: a new record is inserted; a duplicate passes the retry gate of `dec_validate_replay` (retries
    enabled, retry byte in 1..5) and inserts nothing; any other duplicate is REPLAYED.  `ins` is 0 or 1, so the kernel has no
    internal error to report. -/
theorem decReplay_eq (cf : Conf) (rs : ReplaySet) (m : Msg) (s : Scratch) : decReplay cf rs m s =
    if replayKey m s ∉ rs then
      { msg := m, rc := 0, inserted := true, key := some (replayKey m s), replay := replayKey m s :: rs }
    else if cf.gotSocketRetry = true ∧ 0 < m.retry ∧ m.retry ≤ 5 then
      { msg := m, rc := 0, inserted := false, key := some (replayKey m s), replay := rs }
    else { msg := setErr m EMUNGE_CRED_REPLAYED none, rc := -1, inserted := false, key := some (replayKey m s), replay := rs } := by
  have hgate : (cf.gotSocketRetry = true ∧ 0 < m.retry ∧ m.retry ≤ 5) ↔
      (wrapS32 (b2int cf.gotSocketRetry) ≠ 0 ∧ 0 < (m.retry : Int) ∧ (m.retry : Int) ≤ 5) :=
    and_congr (by cases cf.gotSocketRetry <;> decide) (by omega)
  unfold decReplay
  by_cases hp : replayKey m s ∈ rs
  · have hk := dec_validate_replay_dup m.retry (b2int cf.gotSocketRetry) m.clientUid m.clientGid
    rw [if_neg (not_not_intro hp)]
    simp only [show rs.contains (replayKey m s) = true by simpa using hp, if_true]
    by_cases hg : cf.gotSocketRetry = true ∧ 0 < m.retry ∧ m.retry ≤ 5
    · rw [if_pos hg, if_neg (by rw [hk.1]; exact not_not_intro (hgate.mp hg))]
      rfl
    · have hr := hk.1.mpr (mt hgate.mpr hg)
      rw [if_neg hg, if_pos hr, hk.2 hr]
      rfl
  · rw [if_pos hp]
    simp only [show rs.contains (replayKey m s) = false by simpa using hp, Bool.false_eq_true, if_false]
    rw [if_neg (dec_validate_replay_new _ _ _ _)]
    rfl

theorem decReplay_key (cf : Conf) (rs : ReplaySet) (m : Msg) (s : Scratch) :
    (decReplay cf rs m s).key = some (replayKey m s) := by
  rw [decReplay_eq]
  split
  · rfl
  · split <;> rfl

theorem decReplay_soft (cf : Conf) (rs : ReplaySet) (m : Msg) (s : Scratch) (h0 : m.errorNum = 0) :
    SoftExit rs (decReplay cf rs m s) := by
  rw [decReplay_eq]
  refine iteInduction (fun _ => ?_) fun _ => iteInduction (fun _ => ?_) fun _ => softExit_setErr rs _ h0 (.inr (.inr rfl))
  all_goals exact ⟨⟨rfl, fun h => absurd rfl h, fun _ => ⟨_, rfl, rfl⟩⟩, .inl h0⟩

/-- the only hard exit of the tail is the authorisation kernel's refusal -/
theorem decTail_spec (cf : Conf) (env : Env) (rs : ReplaySet) (m : Msg) (s : Scratch) (h0 : m.errorNum = 0) :
    if (dec_validate_auth m.authUid m.authGid m.clientUid m.clientGid (b2int cf.gotRootAuth)
        (fun u g => b2int (env.member u.toNat g.toNat))).ret < 0
    then ∃ m', decTail cf env rs m s = decFail rs m' ∧ m'.retry = m.retry ∧ m'.errorNum = 18
    else SoftExit rs (decTail cf env rs m s) := by
  split
  next hv =>
    have h18 := err_of_out (dec_validate_auth_out _ _ _ _ _ _) hv
    simp only [decTail_eq, if_pos hv]
    exact ⟨_, rfl, setErr_retry _ _ _, by rw [(setErr_of_zero m _ h0 (by rw [h18]; show (18 : Int) ≠ 0; decide)).1, h18]; rfl⟩
  next hv =>
    simp only [decTail_eq, if_neg hv]
    refine iteInduction (fun ht => ?_) fun _ => decReplay_soft cf rs _ s h0
    have := dec_validate_time_out m.ttl m.time0 m.time1 cf.maxTtl (b2int cf.gotClockSkew)
    exact softExit_setErr rs _ h0 (by omega)

theorem decProcess_stages (P : Prims) (cf : Conf) (env : Env) (rs : ReplaySet) (m0 : Msg) :
    HardExit rs m0.retry m0.errorNum (decProcess P cf env rs m0) ∨
    ∃ m1 s1 m2 s2, decFront P env rs m0 = .inr (m1, s1) ∧ (∃ uid gid, FrontOk P env m0 uid gid m1) ∧
      MidOk P cf m1 s1 m2 s2 ∧ decProcess P cf env rs m0 = decTail cf env rs m2 s2 := by
  unfold decProcess
  have hf := decFront_spec P env rs m0
  generalize decFront P env rs m0 = f at hf
  rcases f with o | ⟨m1, s1⟩
  · exact .inl hf
  dsimp only
  have hm := decMid_spec P cf rs m1 s1
  generalize decMid P cf rs m1 s1 = f at hm
  rcases f with o | ⟨m2, s2⟩
  · obtain ⟨_, _, hf⟩ := hf
    rw [show m0.retry = m1.retry by rw [hf.frame], show m0.errorNum = m1.errorNum by rw [hf.frame]]
    exact .inl hm
  · exact .inr ⟨m1, s1, m2, s2, rfl, hf, hm, rfl⟩

theorem decProcess_spec (P : Prims) (cf : Conf) (env : Env) (rs : ReplaySet) (m0 : Msg) :
    HardExit rs m0.retry m0.errorNum (decProcess P cf env rs m0) ∨
    ∃ m s, decFront P env rs m0 = .inr (m, s) ∧ Authentic P cf m s ∧ SoftExit rs (decProcess P cf env rs m0) := by
  rcases decProcess_stages P cf env rs m0 with h | ⟨m1, s1, m2, s2, hf, ⟨_, _, h1⟩, h2, h⟩
  · exact .inl h
  have hr2 : m2.retry = m0.retry := by rw [h2.inner.frame, h1.frame]
  have ht := decTail_spec cf env rs m2 s2 (by rw [h2.inner.frame]; exact h2.noerr)
  rw [h]
  split at ht
  · obtain ⟨m', ho, hr, he⟩ := ht
    exact .inl ⟨m', ho, hr.trans hr2, by omega, fun _ => by rw [he]; decide⟩
  · exact .inr ⟨m1, s1, hf, h2.authentic, ht⟩

/-- CRED_INVALID with the default text, whether it was the padding or the MAC that failed -/
theorem decProcess_of_not_authentic (P : Prims) (cf : Conf) (env : Env) (rs : ReplaySet) (m0 m : Msg) (s : Scratch)
    (h0 : m0.errorNum = 0) (hf : decFront P env rs m0 = .inr (m, s)) (h : ¬ Authentic P cf m s) :
    ∃ m', decProcess P cf env rs m0 = decFail rs m' ∧ m'.retry = m0.retry ∧ m'.errorNum = 14 ∧
      m'.errorStr = "Invalid credential" := by
  have hs := decFront_spec P env rs m0
  rw [hf] at hs
  obtain ⟨_, _, hs⟩ := hs
  refine ⟨_, ?_, by rw [setErr_retry, hs.frame], setErr_invalid m (by rw [hs.frame]; exact h0)⟩
  unfold decProcess
  rw [hf]
  dsimp only
  rw [decMid_eq, if_neg fun hg => h hg.1]

theorem decProcess_exit (P : Prims) (cf : Conf) (env : Env) (rs : ReplaySet) (m0 : Msg) :
    HardExit rs m0.retry m0.errorNum (decProcess P cf env rs m0) ∨ SoftExit rs (decProcess P cf env rs m0) :=
  (decProcess_spec P cf env rs m0).imp id fun ⟨_, _, _, _, h⟩ => h

theorem decProcess_any (P : Prims) (cf : Conf) (env : Env) (rs : ReplaySet) (m0 : Msg) :
    AnyExit rs (decProcess P cf env rs m0) := by
  rcases decProcess_exit P cf env rs m0 with ⟨m', ho, _, he, _⟩ | h
  · rw [ho]
    exact ⟨rfl, fun _ => ⟨he, rfl⟩, fun h => absurd (show (-1 : Int) = 0 from h) (by decide)⟩
  · exact h.toAnyExit

/-- 3, 5: MUNGE_MSG_ENC_RSP, MUNGE_MSG_DEC_RSP -/
theorem jobExec_reply (P : Prims) (cf : Conf) (env : Env) (rs : ReplaySet) (req : Bytes) (sendOk : Bool) :
    ((jobExec P cf env rs req sendOk).1 = none ∨ ∃ t retry body, (t = 3 ∨ t = 5) ∧
      (jobExec P cf env rs req sendOk).1 = some (hdrBytes t retry body.length ++ body)) ∧
    ((∃ m, recvMsg req = .enc m) → (jobExec P cf env rs req sendOk).2 = rs) := by
  unfold jobExec
  cases recvMsg req with
  | drop w => exact ⟨.inl rfl, fun _ => rfl⟩
  | enc m =>
    refine ⟨?_, fun _ => rfl⟩
    cases sendOk
    · exact .inl rfl
    · exact .inr ⟨3, _, _, .inl rfl, rfl⟩
  | dec m =>
    refine ⟨?_, fun ⟨_, h⟩ => nomatch h⟩
    cases sendOk
    · exact .inl rfl
    · exact .inr ⟨5, _, _, .inr rfl, rfl⟩

theorem jobExec_undelivered (P : Prims) (cf : Conf) (env : Env) (rs : ReplaySet) (req : Bytes) :
    jobExec P cf env rs req false = (none, rs) := by
  unfold jobExec
  cases recvMsg req with
  | drop w | enc m => rfl
  | dec m =>
    have hx := decProcess_any P cf env rs m
    dsimp only
    rw [if_neg Bool.false_ne_true]
    by_cases hc : (decProcess P cf env rs m).rc = 0
    · -- a success that inserted put exactly its own key in front, and takes it out again
      obtain ⟨k, hk, hrep⟩ := hx.ok hc
      rw [hk, hrep]
      cases (decProcess P cf env rs m).inserted
      · simp only [Bool.false_eq_true, and_false, if_false]
      · simp only [hc, and_self, if_true, List.erase_cons_head]
    · rw [if_neg (fun h => hc h.1), (hx.failed hc).2]

end Munge.Cred
