import Munge.Model.Timer
/-
Lemmas for C18.  A predicate kept by the five atomic moves — a timer is set, a timer is cancelled, the clock moves, the
thread scans, a callback starts — holds along every trace (`Preserved`): so `TimerInv`, `mem_line` and `Later s s'` (what
every later state retains of `s`: its timers in their old order, none coming back, and its log as a prefix).  `Room`,
`Pending` and `Covers` are followed through the acts by inductions of their own, because what they need of an act is no
predicate of states: a budget that each set uses up, a condition on the act in the state it meets, the signal it returns.
The insert walk and the expiry scan cut the sorted list with the same test (`due`), so one fact about the part behind the
cut serves both.
-/
namespace Munge.Timer
open Munge.C Munge.Gen.Timer

theorem le_iff (a b : TS) : le a b = true ↔ (a.1 < b.1 ∨ (a.1 = b.1 ∧ a.2 ≤ b.2)) := by
  unfold le clock_is_timespec_le
  by_cases h : a.1 = b.1
  · by_cases h2 : a.2 ≤ b.2 <;> simp [h, h2, b2i]
  · by_cases h2 : a.1 ≤ b.1 <;> simp [h, h2, b2i] <;> omega

theorem le_refl (a : TS) : le a a = true := (le_iff a a).2 (.inr ⟨rfl, Int.le_refl _⟩)
theorem le_total (a b : TS) : le a b = true ∨ le b a = true := by rw [le_iff, le_iff]; omega
theorem le_trans {a b c : TS} (h1 : le a b = true) (h2 : le b c = true) : le a c = true := by
  rw [le_iff] at *; omega
theorem le_antisymm {a b : TS} (h1 : le a b = true) (h2 : le b a = true) : a = b := by
  rw [le_iff] at *
  have : a.1 = b.1 ∧ a.2 = b.2 := by omega
  exact Prod.ext this.1 this.2
theorem le_of_not_le {a b : TS} (h : le a b = false) : le b a = true := by
  cases le_total a b with
  | inl h' => rw [h] at h'; cases h'
  | inr h' => exact h'

/-- The tests of the generated insert walk and expiry scan are `le`: these two `rfl`s are what fails when timer.c changes
    either comparison. -/
theorem walk_is_le (e n : TS) : insertWalkContinues e n = le e n := rfl
theorem scan_is_le (e now : TS) : scanWalkContinues e now = le e now := rfl

theorem addMs_zero (now : TS) : addMs now 0 = now := by
  unfold addMs clock_get_timespec; simp [KOut.written]

theorem scanNow_eq (s : State) : scanNow s = s.now := by
  unfold scanNow scanOffsetMs; exact addMs_zero _

/-- Within these bounds (no `long` overflow) `clock_get_timespec` returns the normalised sum. -/
theorem addMs_eq (now : TS) (ms : Int) (hn : 0 ≤ now.2 ∧ now.2 < 1000000000)
    (hs : 0 ≤ now.1 ∧ now.1 < 4000000000000) (hm : 0 ≤ ms ∧ ms < 4000000000000000) :
    addMs now ms = (now.1 + (now.2 + ms * 1000000) / 1000000000, (now.2 + ms * 1000000) % 1000000000) := by
  by_cases hz : ms > 0
  · unfold addMs clock_get_timespec
    -- `q` whole seconds of the delay, `n < 2·10⁹` the nanoseconds before the carry: `omega` is shown these two atoms and
    -- their bounds, never the `%` and `wrapS64` terms
    have hsum : now.2 + ms * 1000000 = now.2 + ms % 1000 * 1000 * 1000 + ms / 1000 * 1000000000 := by omega
    have hq : 0 ≤ ms / 1000 ∧ ms / 1000 < 4000000000000 := by omega
    have hn' : 0 ≤ now.2 + ms % 1000 * 1000 * 1000 ∧ now.2 + ms % 1000 * 1000 * 1000 < 2000000000 := by omega
    rw [hsum, Int.add_mul_ediv_right _ _ (by decide)]
    simp only [hz, KOut.written, Int.tmod_eq_emod_of_nonneg hm.1, Int.tdiv_eq_ediv_of_nonneg hm.1]
    generalize now.2 + ms % 1000 * 1000 * 1000 = n at *
    generalize ms / 1000 = q at *
    clear hsum hm hz hn
    have hc : 0 ≤ n / 1000000000 ∧ n / 1000000000 ≤ 1 := by omega
    have hsq := Int.add_nonneg hs.1 hq.1
    have w : ∀ {x : Int}, 0 ≤ x → x < 9223372036854775808 → wrapS64 x = x :=
      fun h0 => wrapS64_id (Int.le_trans (by decide) h0)
    simp only [w hn'.1 (Int.lt_trans hn'.2 (by decide)), w hq.1 (Int.lt_trans hq.2 (by decide)),
      w hsq (by omega), Int.tmod_eq_emod_of_nonneg hn'.1, Int.tdiv_eq_ediv_of_nonneg hn'.1,
      w hc.1 (Int.lt_of_le_of_lt hc.2 (by decide)), w (Int.add_nonneg hsq hc.1) (by omega)]
    simp
    by_cases hlt : n < 1000000000
    · simp [Int.ediv_eq_zero_of_lt hn'.1 hlt, Int.emod_eq_of_lt hn'.1 hlt, Int.not_le.2 hlt]
    · simp [Int.not_lt.1 hlt, hlt, Int.add_assoc, Int.add_comm q]
  · obtain rfl : ms = 0 := by omega
    simp [addMs_zero, Int.ediv_eq_zero_of_lt hn.1 hn.2, Int.emod_eq_of_lt hn.1 hn.2]

theorem bumpId_pos (id : Int) : 0 < bumpId id := by
  unfold bumpId timer_id_bump; simp only; omega

theorem bumpId_succ {id : Int} (h0 : 0 ≤ id) (h1 : id < LONG_MAX) : bumpId id = id + 1 := by
  unfold LONG_MAX at h1
  unfold bumpId timer_id_bump; simp only [wrapS64]; split <;> omega

abbrev due (c : TS) (e : Tm) : Bool := le e.ts c

theorem expired_eq (now : TS) : expired now = due now := funext fun e => scan_is_le e.ts now

theorem insertAt_eq (t : Tm) (l : List Tm) :
    insertAt t l = l.takeWhile (due t.ts) ++ t :: l.dropWhile (due t.ts) := by
  induction l with
  | nil => rfl
  | cons e r ih => by_cases he : le e.ts t.ts = true <;> simp [insertAt, walk_is_le, he, ih]

theorem not_due_of_mem_dropWhile {c : TS} {l : List Tm} (h : l.Pairwise before) :
    ∀ x ∈ l.dropWhile (due c), le x.ts c = false := by
  induction l with
  | nil => intro x hx; cases hx
  | cons e r ih =>
    rw [List.dropWhile_cons]; split
    · exact ih h.of_cons
    · rename_i he
      intro x hx
      refine Bool.eq_false_iff.2 fun hxc => he ?_
      rcases List.mem_cons.1 hx with rfl | hx
      · exact hxc
      · exact le_trans ((List.pairwise_cons.1 h).1 x hx).1 hxc

/-- `l`: what stands in front of the active list in `line s` or in `s.batch ++ s.active` -/
theorem insertAt_perm (l : List Tm) (t : Tm) (a : List Tm) : (l ++ insertAt t a).Perm (t :: (l ++ a)) := by
  rw [insertAt_eq, ← List.append_assoc]
  exact List.perm_middle.trans (by rw [List.append_assoc, List.takeWhile_append_dropWhile])

theorem mem_append_insertAt {t x : Tm} {l a : List Tm} : x ∈ l ++ insertAt t a ↔ x = t ∨ x ∈ l ++ a :=
  (insertAt_perm l t a).mem_iff.trans List.mem_cons

theorem filter_insertAt {p : Tm → Bool} {t : Tm} (l a : List Tm) (ht : p t = false) :
    (l ++ insertAt t a).filter p = (l ++ a).filter p := by
  rw [insertAt_eq, List.filter_append, List.filter_append, List.filter_cons_of_neg (by simp [ht]),
    ← List.filter_append, List.takeWhile_append_dropWhile, ← List.filter_append]

theorem sorted_insertAt {t : Tm} {l : List Tm} (h : l.Pairwise before) (hs : ∀ e ∈ l, e.seq < t.seq) :
    (insertAt t l).Pairwise before := by
  have hd := not_due_of_mem_dropWhile (c := t.ts) h
  rw [← List.takeWhile_append_dropWhile (p := due t.ts) (l := l), List.pairwise_append] at h
  obtain ⟨hfront, hback, hcross⟩ := h
  rw [insertAt_eq, List.pairwise_append, List.pairwise_cons]
  refine ⟨hfront, ⟨fun x hx => ?_, hback⟩, fun x hx y hy => ?_⟩
  · -- what stands behind the cut is strictly later than `t`
    exact ⟨le_of_not_le (hd x hx), fun hc => by rw [hd x hx] at hc; cases hc⟩
  · rcases List.mem_cons.1 hy with rfl | hy
    · -- what stands in front of it is due no later than `t`, and was set earlier
      exact ⟨List.all_eq_true.1 List.all_takeWhile x hx, fun _ => hs x ((List.takeWhile_sublist _).subset hx)⟩
    · exact hcross x hx y hy

theorem insertPos_ne_zero {ts : TS} {l : List Tm} (h : insertPos ts l ≠ 0) :
    ∃ e r, l = e :: r ∧ le e.ts ts = true := by
  cases l with
  | nil => exact absurd rfl h
  | cons e r =>
    refine ⟨e, r, rfl, Decidable.byContradiction fun hc => h ?_⟩
    rw [insertPos, walk_is_le, if_neg hc]

theorem insertPos_zero_or {t : Tm} {l : List Tm} :
    insertPos t.ts l = 0 ∨ ∃ h r, l = h :: r ∧ insertAt t l = h :: insertAt t r := by
  by_cases h0 : insertPos t.ts l = 0
  · exact .inl h0
  · obtain ⟨e, r, rfl, hle⟩ := insertPos_ne_zero h0
    exact .inr ⟨e, r, rfl, by rw [insertAt, walk_is_le, if_pos hle]⟩

theorem setAbs_ret (s : State) (ts : TS) (cb : Nat) : (setAbs s ts cb).2.1 = bumpId s.nextId := by
  simp only [setAbs]
theorem setAbs_sig (s : State) (ts : TS) (cb : Nat) :
    (setAbs s ts cb).2.2 = setSignals (insertPos ts s.active) s.active.length := rfl

theorem cancel_nonpos (s : State) {id : Int} (h : id ≤ 0) : cancel s id = (s, -1, false) := by
  simp [cancel, timer_cancel_guard, h]

theorem cancel_none {s : State} {id : Int} (h : 0 < id) (hf : s.active.find? (hasId id) = none) :
    cancel s id = (s, 0, false) := by
  simp [cancel, timer_cancel_guard, timer_cancel_ret, Int.not_le.2 h, hf]

theorem cancel_some {s : State} {id : Int} {t : Tm} (h : 0 < id) (hf : s.active.find? (hasId id) = some t) :
    cancel s id = ({ s with active := s.active.eraseP (hasId id) }, 1,
                   cancelSignals (s.active.findIdx (hasId id)) s.active.length) := by
  simp [cancel, timer_cancel_guard, timer_cancel_ret, Int.not_le.2 h, hf]

theorem cancel_fst (s : State) (id : Int) :
    (cancel s id).1 = { s with active := if 0 < id then s.active.eraseP (hasId id) else s.active } := by
  by_cases h : 0 < id
  · rw [if_pos h]
    cases hf : s.active.find? (hasId id) with
    | none => rw [cancel_none h hf, List.eraseP_of_forall_not (by simpa using hf)]
    | some t => rw [cancel_some h hf]
  · rw [if_neg h, cancel_nonpos s (Int.not_lt.1 h)]

theorem cancel_frame (s : State) (id : Int) : (cancel s id).1 = { s with active := (cancel s id).1.active } := by
  rw [cancel_fst]

theorem cancel_active_sublist (s : State) (id : Int) : (cancel s id).1.active.Sublist s.active := by
  rw [cancel_fst]; dsimp only; split
  · exact List.eraseP_sublist
  · exact List.Sublist.refl _

theorem mem_cancel_active {s : State} {id : Int} {x : Tm} {l : List Tm} (hx : x ∈ l ++ s.active)
    (hne : x ∈ s.active → x.id ≠ id) : x ∈ l ++ (cancel s id).1.active := by
  rw [List.mem_append] at hx ⊢
  refine hx.imp_right fun hx => ?_
  rw [cancel_fst]; dsimp only; split
  · exact (List.mem_eraseP_of_neg (by simpa [hasId] using hne hx)).2 hx
  · exact hx

theorem tick_frame (s : State) (n : TS) : tick s n = { s with now := (tick s n).now } := by
  unfold tick; split <;> rfl

theorem scan_frame (s : State) : scan s = { s with batch := (scan s).batch, active := (scan s).active } := by
  unfold scan; split <;> rfl

theorem scan_waiting (s : State) : (scan s).batch ++ (scan s).active = s.batch ++ s.active := by
  unfold scan; split
  · rename_i hb; simp [hb]
  · rfl

theorem scan_nil {s : State} (hb : s.batch = []) :
    scan s = { s with batch := s.active.takeWhile (due s.now), active := s.active.dropWhile (due s.now) } := by
  unfold scan; rw [hb]; simp only [scanNow_eq, expired_eq]

theorem scan_cons {s : State} (hb : s.batch ≠ []) : scan s = s := by
  unfold scan; split
  · contradiction
  · rfl

theorem dispatch_eq (s : State) :
    dispatch s = { s with batch := s.batch.tail, log := s.log ++ (s.batch.take 1).map (·, s.now) } := by
  cases s with | mk a b i n l t => cases b <;> simp [dispatch]

theorem dispatch_now (s : State) : (dispatch s).now = s.now := by
  rw [dispatch_eq]

theorem line_def (s : State) : line s = s.log.map (·.1) ++ s.batch ++ s.active := rfl

theorem scan_line (s : State) : line (scan s) = line s := by
  rw [line, List.append_assoc, scan_waiting, ← List.append_assoc, scan_frame]; rfl

theorem dispatch_line (s : State) : line (dispatch s) = line s := by
  unfold dispatch; split
  · rfl
  · rename_i t b hb; simp [line_def, hb]

theorem applyAct_frame (s : State) (a : Act) :
    (applyAct s a).1.batch = s.batch ∧ (applyAct s a).1.log = s.log ∧ (applyAct s a).1.now = s.now := by
  cases a with
  | cancel id => rw [applyAct, cancel_frame]; exact ⟨rfl, rfl, rfl⟩
  | _ => exact ⟨rfl, rfl, rfl⟩

theorem applyActs_cons (s : State) (a : Act) (r : List Act) :
    applyActs s (a :: r) = ((applyActs (applyAct s a).1 r).1, (applyAct s a).2.2 || (applyActs (applyAct s a).1 r).2) := rfl

theorem applyActs_frame (s : State) (acts : List Act) :
    (applyActs s acts).1.batch = s.batch ∧ (applyActs s acts).1.log = s.log ∧ (applyActs s acts).1.now = s.now := by
  induction acts generalizing s with
  | nil => exact ⟨rfl, rfl, rfl⟩
  | cons a r ih =>
    obtain ⟨h1, h2, h3⟩ := applyAct_frame s a
    rw [applyActs_cons, ← h1, ← h2, ← h3]; exact ih _

theorem applyActs_append (s : State) (a b : List Act) :
    (applyActs s (a ++ b)).1 = (applyActs (applyActs s a).1 b).1 := by
  induction a generalizing s with
  | nil => rfl
  | cons x r ih => simp only [List.cons_append, applyActs_cons]; exact ih _

theorem run_eq (s : State) (acts : List Act) :
    run s acts = if s.batch = [] then s else (applyActs (dispatch s) acts).1 := by
  unfold run; split <;> simp_all

theorem run_batch (s : State) (acts : List Act) : (run s acts).batch = s.batch.tail := by
  rw [run_eq]; split
  · rename_i hb; rw [hb]; rfl
  · rw [(applyActs_frame _ acts).1, dispatch_eq]

theorem exec_cons (s : State) (op : Op) (ops : List Op) : exec s (op :: ops) = exec (step s op) ops := rfl

/-- `P` is kept by each of the five atomic moves, hence holds along every trace (`Preserved.exec`);
    `C` restricts the ids that are cancelled. -/
structure Preserved (C : Int → Prop) (P : State → Prop) : Prop where
  set : ∀ s ts cb, P s → P (setAbs s ts cb).1
  cancel : ∀ s id, C id → P s → P (cancel s id).1
  tick : ∀ s n, P s → P (tick s n)
  scan : ∀ s, P s → P (scan s)
  dispatch : ∀ s, P s → P (dispatch s)

namespace Preserved
variable {C : Int → Prop} {P : State → Prop} (hP : Preserved C P)
include hP

theorem applyActs {s : State} (h : P s) {acts} (hC : ∀ id, actsCancel id acts → C id) : P (applyActs s acts).1 := by
  induction acts generalizing s with
  | nil => exact h
  | cons a r ih =>
    rw [applyActs_cons]
    refine ih ?_ (fun id hi => hC id (List.mem_cons_of_mem _ hi))
    cases a with
    | setAbs _ cb | setRel _ cb => exact hP.set s _ cb h
    | cancel id => exact hP.cancel s id (hC id (List.mem_cons_self ..)) h

theorem run {s : State} (h : P s) {acts} (hC : ∀ id, actsCancel id acts → C id) : P (run s acts) := by
  rw [run_eq]; split
  · exact h
  · exact hP.applyActs (hP.dispatch s h) hC

theorem step {s : State} (h : P s) {op : Op} (hC : ∀ id, opCancels id op → C id) : P (step s op) := by
  cases op with
  | ext acts => exact hP.applyActs h hC
  | tick n => exact hP.tick s n h
  | scan => exact hP.scan s h
  | run acts => exact hP.run h hC

theorem exec {s : State} (h : P s) {ops} (hC : ∀ id, traceCancels id ops → C id) : P (exec s ops) :=
  List.foldlRecOn ops Timer.step h fun _ hs op hop => hP.step hs fun id hi => hC id ⟨op, hop, hi⟩
end Preserved

theorem inv_init : TimerInv init := by
  constructor <;> simp [init, line, logged]

theorem TimerInv.sublist {s : State} (h : TimerInv s) {l : List Tm} (hl : l.Sublist s.active) :
    TimerInv { s with active := l } :=
  have hline : (line { s with active := l }).Sublist (line s) := (List.Sublist.refl _).append hl
  { h with
    sorted := h.sorted.sublist hl
    fresh := fun t ht => h.fresh t (hline.subset ht)
    nodup := h.nodup.sublist (hline.map _) }

theorem timerInv_preserved : Preserved (fun _ => True) TimerInv where
  set s ts cb h := by
    refine { h with
      sorted := sorted_insertAt h.sorted fun e he => h.fresh e (List.mem_append_right _ he)
      fresh := fun t ht => ?_
      nodup := ?_ }
    · rcases mem_append_insertAt.1 ht with rfl | h'
      · exact Nat.lt_succ_self _
      · exact Nat.lt_succ_of_lt (h.fresh t h')
    · refine ((insertAt_perm _ _ _).map Tm.seq).nodup_iff.2 (List.nodup_cons.2 ⟨fun hm => ?_, h.nodup⟩)
      obtain ⟨x, hx, hxs⟩ := List.mem_map.1 hm
      exact Nat.ne_of_lt (h.fresh x hx) hxs
  cancel s id _ h := by rw [cancel_frame]; exact h.sublist (cancel_active_sublist s id)
  tick s n h := by
    unfold tick; split
    · rename_i hle
      exact { h with batchExp := fun t ht => le_trans (h.batchExp t ht) hle }
    · exact h
  scan s h := by
    by_cases hb : s.batch = []
    · have hl := scan_line s
      rw [scan_nil hb] at hl ⊢
      exact { h with
        sorted := h.sorted.sublist (List.dropWhile_sublist _)
        fresh := fun t ht => h.fresh t (hl ▸ ht)
        nodup := hl ▸ h.nodup
        batchExp := List.all_eq_true.1 List.all_takeWhile }
    · rw [scan_cons hb]; exact h
  dispatch s h := by
    have hl := dispatch_line s
    rw [dispatch_eq] at hl ⊢
    refine { h with
      fresh := fun x hx => h.fresh x (hl ▸ hx)
      nodup := hl ▸ h.nodup
      batchExp := fun x hx => h.batchExp x (List.mem_of_mem_tail hx)
      logOk := fun p hp => ?_ }
    rcases List.mem_append.1 hp with hp | hp
    · exact h.logOk p hp
    · obtain ⟨t, ht, rfl⟩ := List.mem_map.1 hp
      exact h.batchExp t (List.mem_of_mem_take ht)

theorem inv_applyActs {s : State} (h : TimerInv s) (acts : List Act) : TimerInv (applyActs s acts).1 :=
  timerInv_preserved.applyActs h (fun _ _ => trivial)
theorem inv_run {s : State} (h : TimerInv s) (acts : List Act) : TimerInv (run s acts) :=
  timerInv_preserved.run h (fun _ _ => trivial)
theorem inv_exec {s : State} (h : TimerInv s) (ops : List Op) : TimerInv (exec s ops) :=
  timerInv_preserved.exec h (fun _ _ => trivial)

theorem mem_line_preserved (t : Tm) : Preserved (· ≠ t.id) (t ∈ line ·) where
  set _ _ _ h := mem_append_insertAt.2 (.inr h)
  cancel s id hid h := by rw [cancel_frame]; exact mem_cancel_active h fun _ => Ne.symm hid
  tick s n h := by rwa [tick_frame]
  scan s h := by rwa [scan_line]
  dispatch s h := by rwa [dispatch_line]

theorem exec_line_keep {s : State} {t : Tm} (ops : List Op) (ht : t ∈ line s) (hc : ¬ traceCancels t.id ops) :
    t ∈ line (exec s ops) :=
  (mem_line_preserved t).exec ht fun _ h e => hc (e ▸ h)

/-- `s'` is a later state of `s` (the timers of `s`: those with serial numbers below `s.nset`) -/
structure Later (s s' : State) : Prop where
  nset : s.nset ≤ s'.nset
  old : ((line s').filter (fun t => t.seq < s.nset)).Sublist (line s)
  log : s.log <+: s'.log

theorem Later.of_line_eq {s₀ s s' : State} (h : Later s₀ s) (hl : line s' = line s) (hn : s'.nset = s.nset)
    (hlog : s.log <+: s'.log) : Later s₀ s' :=
  ⟨hn ▸ h.nset, hl ▸ h.old, h.log.trans hlog⟩

theorem later_preserved (s₀ : State) : Preserved (fun _ => True) (Later s₀) where
  set s ts cb h :=
    { h with
      nset := Nat.le_succ_of_le h.nset
      old := by
        -- the new timer's serial number is not below `s₀.nset`
        show ((logged s ++ s.batch ++ insertAt _ s.active).filter _).Sublist _
        rw [filter_insertAt _ _ (decide_eq_false (Nat.not_lt.2 h.nset))]; exact h.old }
  cancel s id _ h := by
    rw [cancel_frame]
    exact { h with old := (((List.Sublist.refl _).append (cancel_active_sublist s id)).filter _).trans h.old }
  tick s n h := by rw [tick_frame]; exact ⟨h.nset, h.old, h.log⟩
  scan s h := h.of_line_eq (scan_line s) (by rw [scan_frame]) (by rw [scan_frame]; exact List.prefix_refl _)
  dispatch s h := h.of_line_eq (dispatch_line s) (by rw [dispatch_eq]) (by rw [dispatch_eq]; exact List.prefix_append _ _)

theorem later_exec (s : State) (ops : List Op) : Later s (exec s ops) :=
  (later_preserved s).exec ⟨Nat.le_refl _, List.filter_sublist, List.prefix_refl _⟩ (fun _ _ => trivial)

theorem Later.not_mem {s s' : State} (h : Later s s') {x : Tm} (hs : x.seq < s.nset) (hx : x ∉ line s) :
    x ∉ line s' :=
  fun hm => hx (h.old.subset (List.mem_filter.2 ⟨hm, by simpa using hs⟩))

theorem Later.neverBefore {s s' : State} (h : Later s s') {a b : Tm} (h0 : NeverBefore b a (line s))
    (ha : a.seq < s.nset) (hb : b.seq < s.nset) : NeverBefore b a (line s') := by
  have := List.pairwise_filter.1 (h0.sublist h.old)
  refine this.imp ?_
  rintro x y hxy ⟨rfl, rfl⟩
  exact hxy (by simpa using hb) (by simpa using ha) ⟨rfl, rfl⟩

theorem Later.mem_logged {s s' : State} (h : Later s s') {t : Tm} (ht : t ∈ logged s) : t ∈ logged s' :=
  (h.log.map _).subset ht

theorem TimerInv.nodup_parts {s : State} (h : TimerInv s) :
    ((logged s ++ s.batch).map Tm.seq).Nodup ∧ (s.active.map Tm.seq).Nodup ∧
      ∀ a ∈ (logged s ++ s.batch).map Tm.seq, ∀ b ∈ s.active.map Tm.seq, a ≠ b := by
  have := h.nodup; rwa [line, List.map_append, List.nodup_append] at this

theorem TimerInv.active_not_elsewhere {s : State} (h : TimerInv s) {x : Tm} (hx : x ∈ s.active) :
    x ∉ logged s ++ s.batch :=
  fun hm => h.nodup_parts.2.2 _ (List.mem_map_of_mem hm) _ (List.mem_map_of_mem hx) rfl

theorem TimerInv.neverBefore {s : State} (h : TimerInv s) {a b : Tm} (hb : b ∈ s.active) (hab : before a b) :
    NeverBefore b a (line s) := by
  have hnot : ∀ x ∈ logged s ++ s.batch, x ≠ b := fun x hx e => h.active_not_elsewhere hb (e ▸ hx)
  refine List.pairwise_append.2 ⟨?_, h.sorted.imp ?_, fun x hx y _ hxy => hnot x hx hxy.1⟩
  · exact List.pairwise_of_forall_mem_list fun x hx _ _ hxy => hnot x hx hxy.1
  · rintro x y hxy ⟨rfl, rfl⟩
    exact Nat.lt_asymm (hab.2 hxy.1) (hxy.2 hab.1)

theorem NeverBefore.not_mem_after {a b : Tm} {l r : List Tm} (h : NeverBefore b a (l ++ b :: r)) : a ∉ r :=
  fun hm => (List.pairwise_cons.1 (List.pairwise_append.1 h).2.1).1 a hm ⟨rfl, rfl⟩

theorem scan_moves {s : State} {t : Tm} (h : TimerInv s) (hb : s.batch = []) (ht : t ∈ s.active)
    (he : le t.ts s.now = true) : t ∈ (scan s).batch := by
  rw [scan_nil hb]
  rw [← List.takeWhile_append_dropWhile (p := due s.now) (l := s.active), List.mem_append] at ht
  refine ht.resolve_right fun ht => ?_
  rw [not_due_of_mem_dropWhile h.sorted t ht] at he; cases he

theorem runCount_cons (op : Op) (r : List Op) :
    runCount (op :: r) = runCount r + match op with | .run _ => 1 | _ => 0 := by
  cases op <;> rfl

theorem step_batch {s : State} (hne : s.batch ≠ []) (op : Op) :
    (step s op).batch = match op with | .run _ => s.batch.tail | _ => s.batch := by
  cases op with
  | ext acts => exact (applyActs_frame s acts).1
  | tick n => rw [step, tick_frame]
  | scan => rw [step, scan_cons hne]
  | run acts => exact run_batch s acts

theorem batch_drains {s : State} (ops : List Op) (hr : s.batch.length ≤ runCount ops) :
    ∀ t ∈ s.batch, t ∈ logged (exec s ops) := by
  induction ops generalizing s with
  | nil => intro t ht; rw [List.eq_nil_of_length_eq_zero (Nat.le_zero.1 hr)] at ht; cases ht
  | cons op r ih =>
    intro t ht
    have hne := List.ne_nil_of_mem ht
    have hs := step_batch hne op
    rw [exec_cons]; rw [runCount_cons] at hr
    cases op with
    | run acts =>
      obtain ⟨hd, tl, hb⟩ := List.exists_cons_of_ne_nil hne
      rw [hb] at ht hr hs
      rcases List.mem_cons.1 ht with rfl | ht
      · refine (later_exec _ r).mem_logged ?_
        rw [step, run_eq, if_neg hne]
        unfold logged; rw [(applyActs_frame _ acts).2.1, dispatch_eq, hb]; simp
      · exact ih (by rw [hs]; exact Nat.le_of_succ_le_succ hr) t (hs ▸ ht)
    | _ => exact ih (by rw [hs]; exact hr) t (hs ▸ ht)

theorem not_mem_eraseP_of_find {α β} {f : α → β} {p : α → Bool} {x : α} {l : List α} (hf : l.find? p = some x)
    (hn : (l.map f).Nodup) : x ∉ l.eraseP p := by
  obtain ⟨hp, as, bs, rfl, has⟩ := List.find?_eq_some_iff_append.1 hf
  rw [List.eraseP_append_right _ (by simpa using has), List.eraseP_cons_of_pos hp]
  have := (List.perm_middle.map f).nodup_iff.1 hn
  exact fun hm => (List.nodup_cons.1 this).1 (List.mem_map_of_mem hm)

theorem idInv_init : IdInv init := by
  constructor <;> simp [init]

/-- the id counter has room for `n` more timers before it wraps -/
def Room (n : Nat) (s : State) : Prop := IdInv s ∧ s.nextId + n ≤ LONG_MAX

theorem Room.of_sublist {n m : Nat} {s s' : State} (h : Room m s) (hnm : n ≤ m) (hn : s'.nextId = s.nextId)
    (hsub : (s'.batch ++ s'.active).Sublist (s.batch ++ s.active)) : Room n s' := by
  obtain ⟨⟨hc, hr, hd⟩, hw⟩ := h
  rw [← hn] at hc hr hw
  exact ⟨⟨hc, fun t ht => hr t (hsub.subset ht), hd.sublist hsub⟩, by omega⟩

theorem Room.mono {n m : Nat} {s : State} (h : Room m s) (hnm : n ≤ m) : Room n s :=
  h.of_sublist hnm rfl (.refl _)

theorem room_setAbs {n : Nat} {s : State} (h : Room (n + 1) s) (ts : TS) (cb : Nat) : Room n (setAbs s ts cb).1 := by
  obtain ⟨h, hw⟩ := h
  have hb : bumpId s.nextId = s.nextId + 1 := bumpId_succ h.counter (by omega)
  have hold : ∀ x ∈ s.batch ++ s.active, 0 < x.id ∧ x.id < bumpId s.nextId := fun x hx => by
    have := h.range x hx; omega
  refine ⟨⟨Int.le_of_lt (bumpId_pos _), fun t ht => ?_, ?_⟩, ?_⟩
  · show 0 < t.id ∧ t.id ≤ bumpId s.nextId
    rcases mem_append_insertAt.1 ht with rfl | ht
    · exact ⟨bumpId_pos _, Int.le_refl _⟩
    · exact ⟨(hold t ht).1, Int.le_of_lt (hold t ht).2⟩
  · refine ((insertAt_perm _ _ _).pairwise_iff fun h => h.symm).2 (List.pairwise_cons.2 ⟨fun x hx => ?_, h.distinct⟩)
    exact Int.ne_of_gt (hold x hx).2
  · show bumpId s.nextId + n ≤ LONG_MAX; omega

theorem setCount_cons (a : Act) (r : List Act) : setCount (a :: r) = setCount r + if isSet a then 1 else 0 := by
  unfold setCount; rw [List.filter_cons]; split <;> rfl

theorem room_applyActs {n : Nat} {s : State} (acts : List Act) (h : Room (setCount acts + n) s) :
    Room n (applyActs s acts).1 := by
  induction acts generalizing s with
  | nil => exact h.mono (Nat.le_add_left _ _)
  | cons a r ih =>
    rw [applyActs_cons]; refine ih ?_
    cases a with
    | setAbs _ cb | setRel _ cb =>
      exact room_setAbs (h.mono (Nat.le_of_eq (Nat.add_right_comm _ n 1))) _ cb
    | cancel id =>
      rw [applyAct, cancel_frame]
      exact h.of_sublist (Nat.le_refl _) rfl ((List.Sublist.refl _).append (cancel_active_sublist s id))

theorem room_step {n : Nat} {s : State} (op : Op) (h : Room (opSets op + n) s) : Room n (step s op) := by
  cases op with
  | ext acts => exact room_applyActs acts h
  | tick n' => rw [step, tick_frame]; exact h.of_sublist (Nat.le_add_left _ _) rfl (.refl _)
  | scan => rw [step, scan_frame]; exact h.of_sublist (Nat.le_add_left _ _) rfl (by rw [scan_waiting]; exact .refl _)
  | run acts =>
    rw [step, run_eq]; split
    · exact h.mono (Nat.le_add_left _ _)
    · rw [dispatch_eq]
      exact room_applyActs acts (h.of_sublist (Nat.le_refl _) rfl ((List.tail_sublist _).append (.refl _)))

theorem room_exec {n : Nat} {s : State} (ops : List Op) (h : Room (traceSets ops + n) s) : Room n (exec s ops) := by
  induction ops generalizing s with
  | nil => exact h.mono (Nat.le_add_left _ _)
  | cons op r ih =>
    refine ih (room_step op ?_)
    rwa [traceSets, List.map_cons, List.sum_cons, Nat.add_assoc] at h

theorem Pending.mono {c : Nat} {s s' : State} (h : Pending c s)
    (hm : ∀ t ∈ s.batch ++ s.active, t.cb = c → t ∈ s'.batch ++ s'.active) : Pending c s' :=
  let ⟨t, ht, hc⟩ := h; ⟨t, hm t ht hc, hc⟩

theorem pending_setAbs {s : State} (c : Nat) (ts : TS) : Pending c (setAbs s ts c).1 :=
  ⟨_, mem_append_insertAt.2 (.inl rfl), rfl⟩

theorem pending_harmless {s : State} {c : Nat} (acts : List Act) (h : Pending c s) (hh : Harmless c s acts) :
    Pending c (applyActs s acts).1 := by
  induction acts generalizing s with
  | nil => exact h
  | cons a r ih =>
    rw [applyActs_cons]
    refine ih ?_ hh.2
    cases a with
    | setAbs _ _ | setRel _ _ =>
      exact h.mono fun t ht _ => mem_append_insertAt.2 (.inr ht)
    | cancel id =>
      refine h.mono fun t ht hc => ?_
      rw [applyAct, cancel_frame]
      exact mem_cancel_active ht fun ha e => hh.1 t ha e hc

theorem pending_rearms {s : State} {c : Nat} {acts : List Act} (h : Rearms c s acts) :
    Pending c (applyActs s acts).1 := by
  obtain ⟨pre, a, post, rfl, hcb, hh⟩ := h
  rw [List.append_cons, applyActs_append]
  refine pending_harmless post ?_ hh
  rw [applyActs_append]
  cases a with
  | setAbs _ cb | setRel _ cb => cases hcb; exact pending_setAbs _ _
  | cancel id => cases hcb

theorem rearms_last (c : Nat) (s : State) (pre : List Act) (ms : Int) : Rearms c s (pre ++ [.setRel ms c]) :=
  ⟨pre, _, [], rfl, rfl, trivial⟩

theorem pending_keeps {s : State} {c : Nat} {acts : List Act} (h : Pending c s) (hk : Keeps c s acts) :
    Pending c (applyActs s acts).1 :=
  hk.elim (pending_harmless acts h) pending_rearms

theorem pending_step {s : State} {c : Nat} (op : Op) (h : Pending c s) (hk : RecursOK c s [op]) :
    Pending c (step s op) := by
  obtain ⟨hk, _⟩ := hk
  cases op with
  | ext acts => exact pending_keeps h hk
  | tick n => exact h.mono fun t ht _ => by rwa [step, tick_frame]
  | scan => exact h.mono fun t ht _ => by rwa [step, scan_waiting]
  | run acts =>
    rw [step, run_eq]; split
    · exact h
    · cases hbt : s.batch with
      | nil => contradiction
      | cons t b =>
        simp only [hbt] at hk
        split at hk
        · exact pending_rearms hk
        · -- the timer being dispatched is not `c`'s
          rename_i hne
          refine pending_keeps (h.mono fun x hx hc => ?_) hk
          rw [dispatch_eq, hbt]; rw [hbt] at hx
          exact List.mem_of_ne_of_mem (fun e : x = t => hne (e ▸ hc)) hx

theorem recursOK_run {c : Nat} {s : State} {acts : List Act} {rest : List Op} (h : ∀ s', Rearms c s' acts)
    (hr : RecursOK c (step s (.run acts)) rest) : RecursOK c s (.run acts :: rest) := by
  refine ⟨?_, hr⟩
  dsimp only
  split
  · split
    · exact h _
    · exact Or.inr (h _)
  · trivial

/-- what a thread in state `thr` may leave pending: anything while it runs, nothing while it waits
    without deadline, a timer not due before the deadline while it waits with one -/
def Covers : Thr → Tm → Prop
  | .running, _ => True
  | .waitEmpty, _ => False
  | .timedWait dl, x => le dl x.ts = true

theorem Covers.mono {thr : Thr} {e x : Tm} (h : Covers thr e) (hle : le e.ts x.ts = true) : Covers thr x := by
  cases thr with
  | timedWait dl => exact le_trans h hle
  | _ => exact h

theorem covers_setAbs {thr : Thr} {s : State} (ts : TS) (cb : Nat) (h : ∀ x ∈ s.active, Covers thr x)
    (hs : (setAbs s ts cb).2.2 = false) : ∀ x ∈ (setAbs s ts cb).1.active, Covers thr x := by
  intro x hx
  rcases (mem_append_insertAt (l := [])).1 hx with rfl | hx
  -- no signal: the walk stepped past the old head, which the thread's sleep covers
  · have hpos : insertPos ts s.active ≠ 0 := by simpa [setAbs_sig, setSignals] using hs
    obtain ⟨e, r, ha, hle⟩ := insertPos_ne_zero hpos
    exact (h e (ha ▸ List.mem_cons_self ..)).mono hle
  · exact h x hx

theorem covers_applyActs {thr : Thr} {s : State} (acts : List Act) (h : ∀ x ∈ s.active, Covers thr x)
    (hs : (applyActs s acts).2 = false) : ∀ x ∈ (applyActs s acts).1.active, Covers thr x := by
  induction acts generalizing s with
  | nil => exact h
  | cons a r ih =>
    rw [applyActs_cons] at hs ⊢
    simp only [Bool.or_eq_false_iff] at hs
    refine ih ?_ hs.2
    cases a with
    | setAbs _ cb | setRel _ cb => exact covers_setAbs _ cb h hs.1
    | cancel id => exact fun x hx => h x ((cancel_active_sublist s id).subset hx)

/-- `SInv` without the case split on the thread state, for a step that does not look at it (`sInv_ext`) -/
theorem sInv_iff (y : Sys) : SInv y ↔
    ((∀ x ∈ y.st.active, Covers y.thr x) ∧ (blocked y.thr = true → y.st.batch = []) ∧
      ∀ dl, y.thr = .timedWait dl → le dl y.st.now = false) := by
  unfold SInv blocked
  cases y.thr with
  | running => simp [Covers]
  | waitEmpty => simp [Covers, List.eq_nil_iff_forall_not_mem]
  | timedWait dl =>
    simp only [Thr.timedWait.injEq, forall_eq', true_implies, Covers]
    exact ⟨fun ⟨hb, ha, hl⟩ => ⟨ha, hb, hl⟩, fun ⟨ha, hb, hl⟩ => ⟨hb, ha, hl⟩⟩

theorem sInv_ext {y : Sys} (beh : Beh) (h : SInv y) (acts : List Act) : SInv (sysStep beh y (.ext acts)) := by
  simp only [sysStep]
  cases hs : (applyActs y.st acts).2 with
  | true => trivial
  | false =>
    rw [sInv_iff] at h ⊢
    refine ⟨covers_applyActs acts h.1 hs, ?_, ?_⟩
    · rw [(applyActs_frame _ acts).1]; exact h.2.1
    · rw [(applyActs_frame _ acts).2.2]; exact h.2.2

theorem sInv_tick {y : Sys} (beh : Beh) (h : SInv y) (n : TS) : SInv (sysStep beh y (.tick n)) := by
  simp only [sysStep]
  cases ht : y.thr with
  | running => trivial
  | waitEmpty =>
    simp only [SInv, ht] at h ⊢; rw [tick_frame]; exact h
  | timedWait dl =>
    simp only [SInv, ht] at h
    by_cases hl : le dl (tick y.st n).now = true
    · simp [SInv, hl]
    · simp only [hl, if_false, SInv, Bool.false_eq_true]
      rw [tick_frame]
      exact ⟨h.1, h.2.1, trivial⟩

theorem sysStep_inv {y : Sys} (beh : Beh) (h : SInv y) (hi : TimerInv y.st) (op : SOp) :
    SInv (sysStep beh y op) ∧ TimerInv (sysStep beh y op).st := by
  cases op with
  | ext acts => exact ⟨sInv_ext beh h acts, inv_applyActs hi acts⟩
  | tick n => exact ⟨sInv_tick beh h n, timerInv_preserved.tick _ n hi⟩
  | thread =>
    simp only [sysStep]
    cases ht : y.thr with
    | waitEmpty | timedWait _ => exact ⟨by simpa [ht] using h, hi⟩
    | running =>
      cases hb : y.st.batch with
      | cons t b => exact ⟨trivial, inv_run hi _⟩
      | nil =>
        cases ha : y.st.active with
        | nil => exact ⟨by simp [SInv, hb, ha], hi⟩
        | cons a0 r0 =>
          simp only
          have hsc := timerInv_preserved.scan _ hi
          split
          -- the scan detached nothing: the thread sleeps on the head of a sorted list, which the scan has
          -- just found not to be due
          · rename_i hd tl hb' ha'
            refine ⟨⟨hb', fun x hx => ?_, ?_⟩, hsc⟩
            · have hs := hsc.sorted; rw [ha', List.pairwise_cons] at hs
              rcases List.mem_cons.1 (ha' ▸ hx) with rfl | hx
              · exact le_refl _
              · exact (hs.1 x hx).1
            · rw [scan_nil hb] at ha' ⊢; dsimp only at ha' ⊢
              exact not_due_of_mem_dropWhile hi.sorted hd (ha' ▸ List.mem_cons_self ..)
          · exact ⟨trivial, hsc⟩

theorem quiescent_none_expired {y : Sys} (h : SInv y) (hb : blocked y.thr = true) :
    ∀ t ∈ y.st.active, le t.ts y.st.now = false := by
  intro t ht
  unfold SInv at h; split at h
  · rename_i hr; rw [hr] at hb; cases hb
  · rw [h.1] at ht; cases ht
  · -- the deadline is not later than `t` and still in the future
    exact Bool.eq_false_iff.2 fun hq => Bool.false_ne_true (h.2.2.symm.trans (le_trans (h.2.1 t ht) hq))

end Munge.Timer
