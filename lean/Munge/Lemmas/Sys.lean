import Munge.Model.Sys
import Munge.Gen.Sys
import Munge.Lemmas.CredDec
/-
Lemmas for C11.  `Cred.decFront` / `decMid` only thread the replay set into their failure outcome and `decTail` reads it
only through "is my own key present": hence a request's private record is a function of its own inputs and observations
(`Reach`, `reach_functional`), and the run is simulated by the sequential execution of the recorded linearisation order
(`Inv`), each item of which is one `Cred.jobExec`; so every reply is one of `Cred.jobExec` for that request alone
(`Inv.done_reply`).  `advance_flow` says once what a step does to a request's record.  The certificate checker for the
generated lock paths, which the statements of C11 use, comes first.
-/
namespace Munge.Sys
open Munge.Cred Munge.Gen.Dec

open Munge.Gen.Sys in
/-- simulate one event path: `held` = the mutex is held; `hs` = lock state recorded at loop heads -/
def pathGo (mode : Mode) (needs takes : List String) : Bool → List (Nat × Bool) → List Ev → Bool
  | _, _, [] => true
  | held, hs, .lock :: t => !held && pathGo mode needs takes true hs t
  | held, hs, .unlock :: t => held && pathGo mode needs takes false hs t
  | held, hs, .touch _ :: t => held && pathGo mode needs takes held hs t
  | held, hs, .call f :: t =>
      (!needs.contains f || held) && (!takes.contains f || !held) && pathGo mode needs takes held hs t
  | held, hs, .head n :: t => pathGo mode needs takes held ((n, held) :: hs) t
  | held, hs, .back n :: t => (hs.lookup n == some held) && pathGo mode needs takes held hs t
  | held, hs, .ret :: t => (held == (mode == .needsLock)) && pathGo mode needs takes held hs t
  | held, hs, .cut :: t => pathGo mode needs takes held hs t

open Munge.Gen.Sys in
/-- every shared access on the path happens with the mutex held; a function that expects the mutex is only
    called with it, one that takes it only without; the lock state is loop-invariant; the function returns in
    the lock state its mode promises -/
def pathOk (mode : Mode) (needs takes : List String) (p : List Ev) : Bool :=
  pathGo mode needs takes (mode != .takesLock) [] p

open Munge.Gen.Sys in
/-- all certificates of mutex `m` check (functions that only run at start-up / shutdown are exempt), and there is one -/
def mutexCertified (cs : List Cert) (m : String) : Bool :=
  let mine := cs.filter (fun c => c.mutex == m)
  let needs := (mine.filter (fun c => c.mode != .takesLock)).map (·.fn)
  let takes := (mine.filter (fun c => c.mode == .takesLock)).map (·.fn)
  !mine.isEmpty && mine.all (fun c => c.exempt || c.paths.all (pathOk c.mode needs takes))

open Munge.Gen.Sys in
def guardCovered (cs : List Cert) : Guard → Bool
  | .initOnly _ | .lazyInit _ | .syncObject | .atomicFlag | .thread _ => true
  | .mutex m => mutexCertified cs m
  | .unguarded _ => false

/-- `ite_rel` for the relation `f x = g y`: two copies of an `if`-chain are walked in step -/
theorem ite_congr₂ {α β γ : Sort _} (f : α → γ) (g : β → γ) {c : Prop} [Decidable c] {a b : α} {a' b' : β}
    (ha : c → f a = g a') (hb : ¬c → f b = g b') : f (if c then a else b) = g (if c then a' else b') :=
  Munge.C.ite_rel (R := fun x y => f x = g y) Iff.rfl ha hb

/-- a stage's outcome with the replay set of its failure exit replaced (the stage does nothing else with the set) -/
def setRs {α : Type} (rs : ReplaySet) : DecOut ⊕ α → DecOut ⊕ α
  | .inl o => .inl { o with replay := rs }
  | .inr x => .inr x

theorem decFront_env (P : Prims) (e1 e2 : Env) (rs : ReplaySet) (m : Msg) (hn : e1.now = e2.now) (hp : e1.peer = e2.peer) :
    decFront P e1 rs m = decFront P e2 rs m := by
  obtain ⟨n1, p1, _, _⟩ := e1
  obtain ⟨n2, p2, _, _⟩ := e2
  cases hn; cases hp; rfl

theorem decFront_rs (P : Prims) (env : Env) (rs rs' : ReplaySet) (m : Msg) :
    decFront P env rs m = setRs rs (decFront P env rs' m) := by
  unfold decFront
  refine ite_congr₂ id _ (fun _ => rfl) fun _ => ite_congr₂ id _ (fun _ => rfl) fun _ => ?_
  cases env.peer with
  | none => rfl
  | some p =>
    dsimp only
    refine ite_congr₂ id _ (fun _ => rfl) fun _ => ?_
    generalize unarmor _ = u
    cases u with
    | error e => rfl
    | ok raw =>
      dsimp only
      generalize unpackOuter P _ raw = t
      cases t <;> rfl

theorem decMid_rs (P : Prims) (cf : Conf) (rs rs' : ReplaySet) (m : Msg) (s : Scratch) :
    decMid P cf rs m s = setRs rs (decMid P cf rs' m s) := by
  unfold decMid
  repeat' split
  all_goals rfl

/-- the part of a decode outcome that reaches the client or the request's own record -/
def core (o : DecOut) : Msg × Int × Bool × Option ReplayKey := (o.msg, o.rc, o.inserted, o.key)

theorem decTail_key (cf : Conf) (env : Env) (rs : ReplaySet) (m : Msg) (s : Scratch) :
    (decTail cf env rs m s).key = (decTail cf env [] m s).key := by
  simp only [decTail, apply_ite DecOut.key, ite_self, decErr, decFail]

theorem decTail_frame (cf : Conf) (env : Env) (rs1 rs2 : ReplaySet) (m : Msg) (s : Scratch)
    (h : ∀ k, (decTail cf env [] m s).key = some k → rs1.contains k = rs2.contains k) :
    core (decTail cf env rs1 m s) = core (decTail cf env rs2 m s) := by
  unfold decTail at h ⊢
  dsimp only at h ⊢
  refine ite_congr₂ core core (fun _ => rfl) fun h1 => ite_congr₂ core core (fun _ => rfl) fun h2 => ?_
  rw [if_neg h1, if_neg h2] at h
  rw [h _ (by simp only [apply_ite DecOut.key, ite_self])]
  exact ite_congr₂ core core (fun _ => rfl) fun _ => rfl

theorem decProcess_split (P : Prims) (cf : Conf) (env : Env) (rs : ReplaySet) (m : Msg) :
    decProcess P cf env rs m =
      match decFront P env [] m with
      | .inl o => { o with replay := rs }
      | .inr (m1, s1) =>
        match decMid P cf [] m1 s1 with
        | .inl o => { o with replay := rs }
        | .inr (m2, s2) => decTail cf env rs m2 s2 := by
  unfold decProcess
  rw [decFront_rs P env rs [] m]
  cases decFront P env [] m with
  | inl o => rfl
  | inr x =>
    obtain ⟨m1, s1⟩ := x
    simp only [setRs]
    rw [decMid_rs P cf rs [] m1 s1]
    cases decMid P cf [] m1 s1 with
    | inl o | inr y => rfl

/-- `r` is a decode whose front and middle stages have passed and left `(m, s)`: whatever the membership answer and the
    replay set, the whole decode is the tail stage run on `(m, s)` -/
def Staged (W : World) (r : Req) (m : Msg) (s : Scratch) : Prop :=
  ∃ m0, recvMsg r.bytes = .dec m0 ∧
    ∀ a rs, decProcess W.P W.cf (envOf r [] a) rs m0 = decTail W.cf (envOf r [] a) rs m s

/-- a local state that is consistent with the request it belongs to (every reachable one is) -/
inductive Good (W : World) (r : Req) : Local → Prop
  | start : Good W r .start
  | encV (m n) : recvMsg r.bytes = .enc m → Good W r (.encV m n)
  | encSalt (m n salt) : recvMsg r.bytes = .enc m → Good W r (.encSalt m n salt)
  | dec (m s) : Staged W r m s → Good W r (.dec m s)
  | decAns (m s ans) : Staged W r m s → Good W r (.decAns m s ans)
  | ready (rsp u) : Good W r (.ready rsp u)
  | unsent (k) : r.sendOk = false → Good W r (.unsent k)
  | done (o) : (o = none → ∀ env rs, (jobExec W.P W.cf env rs r.bytes r.sendOk).1 = none) →
      (∀ b, o = some b → r.sendOk = true) → Good W r (.done o)

/-- the control-flow graph of a request: which private record can follow which, and what the step establishes about the
    new one.  A first step that completes the reply (`early`) is the whole transaction, which then leaves the replay set
    alone. -/
inductive Flow (W : World) (r : Req) : Local → Local → Prop
  | drop (w) : recvMsg r.bytes = .drop w → Flow W r .start (.done none)
  | early (rsp) : (∀ rs, jobExec W.P W.cf (envOf r [] false) rs r.bytes true = (some rsp, rs)) →
      Flow W r .start (.ready rsp none)
  | enc (m n) : recvMsg r.bytes = .enc m → Flow W r .start (.encV m n)
  | dec (m s) : Staged W r m s → Flow W r .start (.dec m s)
  | salt (m n salt) : Flow W r (.encV m n) (.encSalt m n salt)
  | iv (m n salt rsp) : Flow W r (.encSalt m n salt) (.ready rsp none)
  | lookup (m s a) : Flow W r (.dec m s) (.decAns m s a)
  | insert (m s a rsp u) : Flow W r (.decAns m s a) (.ready rsp u)
  | sent (rsp u) : r.sendOk = true → Flow W r (.ready rsp u) (.done (some rsp))
  | unsent (rsp k) : r.sendOk = false → Flow W r (.ready rsp (some k)) (.unsent k)
  | closed (rsp) : r.sendOk = false → Flow W r (.ready rsp none) (.done none)
  | removed (k) : Flow W r (.unsent k) (.done none)
  | stay (o) : Flow W r (.done o) (.done o)

theorem advance_flow (W : World) (r : Req) (l : Local) (sh : Shared) : Flow W r l (advance W r l sh).1 := by
  cases l with
  | start =>
    unfold advance
    dsimp only
    cases hr : recvMsg r.bytes with
    | drop w => exact .drop w hr
    | enc m =>
      dsimp only
      cases encPlan W m with
      | none => exact .early _ fun rs => by simp [jobExec, hr]
      | some n => exact .enc m n hr
    | dec m0 =>
      dsimp only
      cases hf : decFront W.P (envOf r [] false) [] m0 with
      | inl o => exact .early _ fun rs => by simp [jobExec, hr, decProcess_split, hf]
      | inr x =>
        obtain ⟨m1, s1⟩ := x
        dsimp only
        cases hm : decMid W.P W.cf [] m1 s1 with
        | inl o => exact .early _ fun rs => by simp [jobExec, hr, decProcess_split, hf, hm]
        | inr y =>
          refine .dec _ _ ⟨m0, hr, fun a rs => ?_⟩
          rw [decProcess_split, decFront_env W.P (envOf r [] a) (envOf r [] false) [] m0 rfl rfl, hf]
          dsimp only
          rw [hm]
  | ready rsp u =>
    unfold advance
    dsimp only
    split
    · next hs => exact .sent _ _ hs
    · next hs =>
      split
      · exact .unsent _ _ (by simpa using hs)
      · exact .closed _ (by simpa using hs)
  | _ => constructor

theorem Flow.good {W : World} {r : Req} {l l' : Local} (hfl : Flow W r l l') (h : Good W r l) : Good W r l' := by
  have hun : r.sendOk = false → Good W r (.done none) := fun hs =>
    .done _ (fun _ env rs => by rw [hs, jobExec_undelivered]) nofun
  cases hfl with
  | drop w hrv => exact .done _ (fun _ env rs => by simp [jobExec, hrv]) nofun
  | sent rsp u hs => exact .done _ nofun fun _ _ => hs
  | closed rsp hs => exact hun hs
  | removed k => cases h with | unsent _ hs => exact hun hs
  | stay => exact h
  | _ => cases h <;> constructor <;> assumption

theorem advance_snd (W : World) (r : Req) (l : Local) (sh : Shared) (h : stepOf l = some .recv ∨ stepOf l = some .send) :
    (advance W r l sh).2 = sh := by
  cases l with
  | start | ready =>
    unfold advance
    dsimp only
    repeat' split
    all_goals rfl
  | _ => simp [stepOf] at h

/-- one step of a request, seen from the sequential reference: the items it contributes to the linearisation order take
    the sequential execution from the old shared replay set and replies to the new ones -/
theorem advance_sim (W : World) (reqs : List Req) (i : Nat) (r : Req) (hr : reqs[i]? = some r)
    (l : Local) (sh : Shared) (ans : List (Nat × Bytes)) (hg : Good W r l) :
    (linOf W i l (advance W r l sh).1 sh).foldl (seqItem W reqs allDeliver) (sh.replay, ans) =
      ((advance W r l sh).2.replay, ans ++ ansOf i l (advance W r l sh).1) := by
  cases hg with
  | start =>
    have hfl := advance_flow W r .start sh
    rw [advance_snd W r .start sh (.inl rfl)]
    generalize (advance W r .start sh).1 = l' at hfl
    cases hfl with
    | drop w hrv => simp [linOf, isPre, ansOf, seqItem, hr, jobExec, hrv]
    | early rsp hj => simp [linOf, isPre, ansOf, seqItem, hr, hj, allDeliver]
    | enc | dec => simp [linOf, isPre, ansOf]
  | encV | dec | done => simp [advance, linOf, isPre, ansOf]
  | encSalt m n salt hrv =>
    simp [advance, linOf, isPre, ansOf, seqItem, hr, jobExec, hrv, allDeliver]
  | decAns m s a hst =>
    obtain ⟨m0, hrv, hd⟩ := hst
    simp [advance, linOf, isPre, ansOf, seqItem, hr, jobExec, hrv, allDeliver, hd]
  | ready rsp u =>
    have hfl := advance_flow W r (.ready rsp u) sh
    rw [advance_snd W r _ sh (.inr rfl)]
    generalize (advance W r (.ready rsp u) sh).1 = l' at hfl
    cases hfl <;> simp [linOf, ansOf, isPre]
  | unsent k _ => simp [advance, linOf, isPre, ansOf, seqItem]

theorem countReq_append (i : Nat) (a b : List LinItem) : countReq i (a ++ b) = countReq i a + countReq i b := by
  simp [countReq, List.filter_append]
theorem count_single (i j : Nat) (a : Bool) (d : Bytes) :
    (List.filter (LinItem.isReq j) [LinItem.req i a d]).length = if i = j then 1 else 0 := by
  by_cases h : i = j <;> simp [LinItem.isReq, h]

/-- the reply a record holds: completed and about to be sent, or delivered -/
def replyOf : Local → Option Bytes
  | .ready rsp _ => some rsp
  | .done o => o
  | _ => none

section
variable {W : World} {r : Req} {l l' : Local}

theorem Flow.countReq_linOf (hfl : Flow W r l l') (i j : Nat) (sh : Shared) :
    countReq j (linOf W i l l' sh) = if i = j ∧ isPre l = true ∧ isPre l' = false then 1 else 0 := by
  cases hfl <;> simp [linOf, countReq, isPre, count_single, LinItem.isReq]

theorem Flow.not_pre (hfl : Flow W r l l') (h : isPre l = false) : isPre l' = false := by
  cases hfl with
  | sent | unsent | closed | removed | stay => rfl
  | _ => cases h

theorem Flow.reply (hfl : Flow W r l l') (i : Nat) {b : Bytes} (h : replyOf l' = some b) :
    replyOf l = some b ∨ ansOf i l l' = [(i, b)] := by
  cases hfl with
  | early | iv | insert => cases h; exact .inr rfl
  | sent | stay => exact .inl h
  | _ => cases h

end

/-- the private records a request with inputs `r` can be in after observing `os` (newest first) -/
inductive Reach (W : World) (r : Req) : List Obs → Local → Prop
  | start : Reach W r [] .start
  | step (os l sh) : Reach W r os l → (stepOf l).isSome → Reach W r (observe W r l sh :: os) (advance W r l sh).1

theorem reach_good {W : World} {r : Req} {os : List Obs} {l : Local} (h : Reach W r os l) : Good W r l := by
  induction h with
  | start => exact .start
  | step os l sh _ _ ih => exact (advance_flow W r l sh).good ih

/-- the invariant of `run`: every record is reachable on its request's own observations (`reach`), and the sequential run
    of the recorded order `lin` explains the shared replay set (`sim`), every reply held (`ans`) and every withdrawal
    (`und`); `cnt`: a request is in `lin` once, from the step that completes its reply -/
structure Inv (W : World) (reqs : List Req) (rs0 : ReplaySet) (σ : State) : Prop where
  reach : ∀ i r, reqs[i]? = some r → Reach W r (σ.obs i) (σ.locals i)
  sim : seqRun W reqs allDeliver rs0 σ.lin = (σ.sh.replay, σ.answers)
  cnt : ∀ i, countReq i σ.lin = if isPre (σ.locals i) then 0 else 1
  ans : ∀ i b, replyOf (σ.locals i) = some b → (i, b) ∈ σ.answers
  und : ∀ k, LinItem.undo k ∈ σ.lin → ∃ i r, reqs[i]? = some r ∧ r.sendOk = false ∧ σ.locals i = .done none

theorem inv_init (W : World) (reqs : List Req) (rs0 : ReplaySet) : Inv W reqs rs0 (initState rs0) where
  reach := fun _ _ _ => .start
  sim := rfl
  cnt := fun _ => rfl
  ans := fun _ _ h => by cases h
  und := fun _ h => by cases h

theorem upd_same {α : Type} (f : Nat → α) (i : Nat) (v : α) : upd f i v i = v := by simp [upd]
theorem upd_other {α : Type} {f : Nat → α} {i j : Nat} {v : α} (h : j ≠ i) : upd f i v j = f j := by simp [upd, h]

theorem advance_done_none_unsent (W : World) (r : Req) (k : ReplayKey) (sh : Shared) :
    (advance W r (.unsent k) sh).1 = .done none := rfl

theorem undo_mem_linOf {W : World} {i : Nat} {l l' : Local} {sh : Shared} {k : ReplayKey}
    (h : LinItem.undo k ∈ linOf W i l l' sh) : l = .unsent k := by
  cases l with
  | start =>
    simp only [linOf] at h
    split at h <;> simp at h
  | unsent k' => simp [linOf] at h; rw [h]
  | _ => simp [linOf] at h

theorem seqRun_append (W : World) (reqs : List Req) (d : Req → Bool) (rs0 : ReplaySet) (a b : List LinItem) :
    seqRun W reqs d rs0 (a ++ b) = b.foldl (seqItem W reqs d) (seqRun W reqs d rs0 a) := by
  simp [seqRun, List.foldl_append]

theorem inv_step {W : World} {reqs : List Req} {rs0 : ReplaySet} {σ : State} {i : Nat} {r : Req} {S : Step}
    (hr : reqs[i]? = some r) (hen : stepOf (σ.locals i) = some S) (h : Inv W reqs rs0 σ) :
    Inv W reqs rs0 (stepState W r i σ) := by
  have hg := reach_good (h.reach i r hr)
  have hfl := advance_flow W r (σ.locals i) σ.sh
  unfold stepState
  constructor
  case reach =>
    intro j r' hj
    by_cases hji : j = i
    · subst hji
      rw [hr] at hj; cases hj
      simp only [upd_same]
      exact .step _ _ _ (h.reach j r hr) (by rw [hen]; rfl)
    · simp only [upd_other hji]
      exact h.reach j r' hj
  case sim =>
    dsimp only
    rw [seqRun_append, h.sim]
    exact advance_sim W reqs i r hr _ _ _ hg
  case cnt =>
    intro j
    rw [countReq_append, h.cnt j, hfl.countReq_linOf i j]
    by_cases hji : j = i
    · subst hji
      simp only [upd_same, true_and]
      cases hp : isPre (σ.locals j)
      · rw [hfl.not_pre hp]; simp
      · cases isPre (advance W r (σ.locals j) σ.sh).1 <;> simp
    · have : ¬ i = j := fun e => hji e.symm
      simp [upd_other hji, this]
  case ans =>
    intro j b hj
    dsimp only at hj ⊢
    by_cases hji : j = i
    · subst hji
      rw [upd_same] at hj
      rcases hfl.reply j hj with hl | hl
      · exact List.mem_append_left _ (h.ans j b hl)
      · rw [hl]; exact List.mem_append_right _ (List.mem_singleton.mpr rfl)
    · rw [upd_other hji] at hj
      exact List.mem_append_left _ (h.ans j b hj)
  case und =>
    intro k hk
    dsimp only at hk ⊢
    rcases List.mem_append.1 hk with hk | hk
    · obtain ⟨j, r', hj, hs, hl⟩ := h.und k hk
      have hji : j ≠ i := by
        intro e; subst e
        rw [hl] at hen; simp [stepOf] at hen
      exact ⟨j, r', hj, hs, by rw [upd_other hji]; exact hl⟩
    · have hl := undo_mem_linOf hk
      refine ⟨i, r, hr, ?_, ?_⟩
      · rw [hl] at hg
        cases hg with
        | unsent _ hs => exact hs
      · rw [upd_same, hl]; rfl

theorem inv_fire {W : World} {reqs : List Req} {rs0 : ReplaySet} {σ : State} (a : Act) (h : Inv W reqs rs0 σ) :
    Inv W reqs rs0 (fire W reqs σ a) := by
  cases a with
  | swap => exact { h with }
  | purge now =>
    refine { h with sim := ?_, cnt := ?_, und := ?_ }
    · show seqRun W reqs allDeliver rs0 (σ.lin ++ [.purge now]) = _
      rw [seqRun_append, h.sim]; rfl
    · intro i
      show countReq i (σ.lin ++ [.purge now]) = if isPre (σ.locals i) then 0 else 1
      rw [countReq_append, h.cnt i]; simp [countReq, LinItem.isReq]
    · intro k hk
      have : LinItem.undo k ∈ σ.lin ++ [.purge now] := hk
      simp at this
      exact h.und k this
  | req i S =>
    simp only [fire]
    cases hr : reqs[i]? with
    | none => exact h
    | some r =>
      dsimp only
      split
      · rename_i hen
        exact inv_step hr hen h
      · exact h

theorem inv_run {W : World} {reqs : List Req} {rs0 : ReplaySet} (sched : List Act) {σ : State} (h : Inv W reqs rs0 σ) :
    Inv W reqs rs0 (run W reqs σ sched) := by
  induction sched generalizing σ with
  | nil => exact h
  | cons a t ih => exact ih (inv_fire a h)

theorem inv_reachable (W : World) (reqs : List Req) (rs0 : ReplaySet) (sched : List Act) :
    Inv W reqs rs0 (run W reqs (initState rs0) sched) :=
  inv_run sched (inv_init W reqs rs0)

theorem advance_local_of_observe (W1 W2 : World) (hP : W1.P = W2.P) (hcf : W1.cf = W2.cf) (r : Req) (l : Local)
    (sh1 sh2 : Shared) (h : observe W1 r l sh1 = observe W2 r l sh2) : (advance W1 r l sh1).1 = (advance W2 r l sh2).1 := by
  obtain ⟨P, cf, g1, s1⟩ := W1
  obtain ⟨P2, cf2, g2, s2⟩ := W2
  simp only at hP hcf
  subst hP hcf
  cases l with
  | start =>
    unfold advance encPlan
    dsimp only
    repeat' split
    all_goals rfl
  | encV | encSalt | dec =>
    simp only [observe, Obs.bytes.injEq, Obs.member.injEq] at h
    simp [advance, h]
  | decAns m s a =>
    have hc : core (decTail cf (envOf r [] a) sh1.replay m s) = core (decTail cf (envOf r [] a) sh2.replay m s) := by
      apply decTail_frame
      intro k hk
      simp only [observe, hk, Obs.present.injEq] at h
      exact h
    simp only [core, Prod.mk.injEq] at hc
    simp only [advance, hc.1, hc.2.1, hc.2.2.1, hc.2.2.2]
  | ready rsp u =>
    unfold advance
    dsimp only
    repeat' split
    all_goals rfl
  | unsent k | done o => rfl

theorem reach_functional (W1 W2 : World) (hP : W1.P = W2.P) (hcf : W1.cf = W2.cf) (r : Req) (os : List Obs) (l1 l2 : Local)
    (h1 : Reach W1 r os l1) (h2 : Reach W2 r os l2) : l1 = l2 := by
  induction h1 generalizing l2 with
  | start => cases h2; rfl
  | step os l sh hprev hen ih =>
    generalize hos : observe W1 r l sh :: os = os' at h2
    cases h2 with
    | start => cases hos
    | step os2 l' sh' hprev' hen' =>
      injection hos with ho hos
      subst hos
      have := ih l' hprev'
      subst this
      exact advance_local_of_observe W1 W2 hP hcf r l sh sh' ho

theorem decProcess_msg_frame (P : Prims) (cf : Conf) (env : Env) (rs1 rs2 : ReplaySet) (m : Msg)
    (h : ∀ k, (decProcess P cf env [] m).key = some k → rs1.contains k = rs2.contains k) :
    (decProcess P cf env rs1 m).msg = (decProcess P cf env rs2 m).msg := by
  rw [decProcess_split P cf env rs1 m, decProcess_split P cf env rs2 m]
  rw [decProcess_split P cf env [] m] at h
  rcases hf : decFront P env [] m with o | ⟨m1, s1⟩
  · rfl
  simp only [hf] at h ⊢
  rcases hm : decMid P cf [] m1 s1 with o | ⟨m2, s2⟩
  · rfl
  simp only [hm] at h ⊢
  exact congrArg Prod.fst (decTail_frame cf env rs1 rs2 m2 s2 h)

theorem jobExec_reply_frame (P : Prims) (cf : Conf) (env : Env) (rs1 rs2 : ReplaySet) (req : Bytes) (ok : Bool)
    (h : ∀ m, recvMsg req = .dec m → ∀ k, (decProcess P cf env [] m).key = some k → rs1.contains k = rs2.contains k) :
    (jobExec P cf env rs1 req ok).1 = (jobExec P cf env rs2 req ok).1 := by
  unfold jobExec
  cases hr : recvMsg req with
  | drop w | enc m => rfl
  | dec m =>
    cases ok
    · rfl
    · exact congrArg (fun x => some (decRsp x)) (decProcess_msg_frame P cf env rs1 rs2 m (h m hr))

theorem jobExec_small (P : Prims) (cf : Conf) (env : Env) (rs : ReplaySet) (req : Bytes) (ok : Bool) :
    ∃ rs' : ReplaySet, rs'.length ≤ 1 ∧ (jobExec P cf env rs req ok).1 = (jobExec P cf env rs' req ok).1 := by
  -- the one key a decode's reply depends on
  obtain ⟨ko, hko⟩ : ∃ ko, ∀ m, recvMsg req = .dec m → (decProcess P cf env [] m).key = ko := by
    cases recvMsg req with
    | dec m => exact ⟨_, fun _ h => by cases h; rfl⟩
    | _ => exact ⟨none, nofun⟩
  refine ⟨ko.toList.filter rs.contains, ?_, jobExec_reply_frame P cf env rs _ req ok fun m hm k hk => ?_⟩
  · exact Nat.le_trans (List.length_filter_le _ _) (by cases ko <;> simp)
  · rw [hko m hm] at hk; subst hk
    by_cases h : k ∈ rs <;> simp [h]

theorem mem_seqRun {W : World} {reqs : List Req} {lin : List LinItem} {acc : ReplaySet × List (Nat × Bytes)} {i : Nat}
    {b : Bytes} (h : (i, b) ∈ (lin.foldl (seqItem W reqs allDeliver) acc).2) :
    (i, b) ∈ acc.2 ∨ ∃ r a d rs, reqs[i]? = some r ∧ (jobExec W.P W.cf (envOf r d a) rs r.bytes true).1 = some b := by
  induction lin generalizing acc with
  | nil => exact .inl h
  | cons it t ih =>
    refine (ih h).elim (fun h => ?_) .inr
    cases it with
    | req j a d =>
      simp only [seqItem] at h
      split at h
      · exact .inl h
      · next r hr =>
        split at h
        · next b' hx =>
          rcases List.mem_append.mp h with h | h
          · exact .inl h
          · cases List.mem_singleton.mp h; exact .inr ⟨r, a, d, acc.1, hr, hx⟩
        · exact .inl h
    | purge now | undo k => exact .inl h

theorem Inv.done_reply {W : World} {reqs : List Req} {rs0 : ReplaySet} {σ : State} (h : Inv W reqs rs0 σ) {i : Nat}
    {r : Req} (hr : reqs[i]? = some r) {out : Option Bytes} (hd : σ.locals i = .done out) :
    ∃ (ans : Bool) (drawn : Bytes) (rs' : ReplaySet), rs'.length ≤ 1 ∧
      out = (jobExec W.P W.cf (envOf r drawn ans) rs' r.bytes r.sendOk).1 := by
  have hg := reach_good (h.reach i r hr)
  rw [hd] at hg
  cases hg with | done _ hnone hsome =>
  cases out with
  | none => exact ⟨false, [], [], Nat.zero_le _, (hnone rfl _ _).symm⟩
  | some b =>
    have hb := h.ans i b (by rw [hd]; rfl)
    rw [← show _ = σ.answers from congrArg Prod.snd h.sim] at hb
    rcases mem_seqRun hb with hb | ⟨r', a, d, rs, hr', hj⟩
    · cases hb
    · rw [hr] at hr'; cases hr'
      obtain ⟨rs', hl, he⟩ := jobExec_small W.P W.cf (envOf r d a) rs r.bytes true
      exact ⟨a, d, rs', hl, by rw [hsome b rfl, ← he, hj]⟩

theorem isPre_of_finished {σ : State} {i : Nat} (h : finished σ i = true) : isPre (σ.locals i) = false := by
  unfold finished at h
  split at h
  · next hl => rw [hl]; rfl
  · cases h

theorem locals_of_outOf {σ : State} {i : Nat} {b : Bytes} (h : outOf σ i = some b) : σ.locals i = .done (some b) := by
  unfold outOf at h
  split at h
  · next hl => rw [hl, h]
  · cases h

theorem seqItem_deliver_eq (W : World) (reqs : List Req) (hall : ∀ r ∈ reqs, r.sendOk = true)
    (acc : ReplaySet × List (Nat × Bytes)) (it : LinItem) :
    seqItem W reqs (fun r => r.sendOk) acc it = seqItem W reqs allDeliver acc it := by
  cases it with
  | req i ans drawn =>
    simp only [seqItem]
    cases h : reqs[i]? with
    | none => rfl
    | some r =>
      have : r.sendOk = true := hall r (List.mem_of_getElem? h)
      simp [allDeliver, this]
  | purge now | undo k => rfl

theorem seqRun_deliver_eq (W : World) (reqs : List Req) (hall : ∀ r ∈ reqs, r.sendOk = true)
    (rs0 : ReplaySet) (order : List LinItem) :
    seqRun W reqs (fun r => r.sendOk) rs0 order = seqRun W reqs allDeliver rs0 order := by
  unfold seqRun
  rw [funext fun acc => funext (seqItem_deliver_eq W reqs hall acc)]

end Munge.Sys
