import Munge.C.Kernel
/-!
Case analysis on translated kernels.  A kernel of `Munge/Gen` is a tree of `if`s whose leaves are `KOut` literals, one
per control-flow path of the C function; a statement about it is proved path by path.
-/
namespace Munge.C

/-- The step of `kcases`.  The result is kept behind an equation with a variable `o`, so no motive has to be named and
    the statement about `o` is not copied into the branches that are still to be split. -/
theorem ite_eq_elim {α : Sort _} {c : Prop} [Decidable c] {a b o : α} {Q : Prop}
    (ha : c → a = o → Q) (hb : ¬c → b = o → Q) : (if c then a else b) = o → Q := by
  intro h
  by_cases hc : c
  · exact ha hc (by rw [← h, if_pos hc])
  · exact hb hc (by rw [← h, if_neg hc])

/-- one step of walking two `if`-chains down together: tests that agree, branches that are related -/
theorem ite_rel {α β : Sort _} {R : α → β → Prop} {c c' : Prop} [Decidable c] [Decidable c'] {a b : α} {a' b' : β}
    (hc : c ↔ c') (ha : c → R a a') (hb : ¬ c → R b b') : R (if c then a else b) (if c' then a' else b') := by
  by_cases h : c
  · rw [if_pos h, if_pos (hc.mp h)]; exact ha h
  · rw [if_neg h, if_neg (fun h' => h (hc.mpr h'))]; exact hb h

/-- a test that implies the next one of a ladder with the same exit can be dropped -/
theorem ite_absorb {α : Sort _} {c d : Prop} [Decidable c] [Decidable d] (a b : α) (h : c → d) :
    (if c then a else if d then a else b) = if d then a else b := by
  by_cases hc : c
  · rw [if_pos hc, if_pos (h hc)]
  · rw [if_neg hc]

/-- `if (n > len) fail; len -= n;` with `len` an `int`: once the test has passed, the subtraction does not wrap -/
theorem len_step {len n : Int} (h : -2147483648 ≤ len ∧ len ≤ 2147483647) (hn : 0 ≤ n) (ht : ¬ n > len) :
    wrapS32 (len - n) = len - n ∧ -2147483648 ≤ len - n ∧ len - n ≤ 2147483647 :=
  ⟨wrapS32_id (by omega) (by omega), by omega, by omega⟩

/-- `kcases k` replaces a goal (and hypotheses) about `k args` by one goal per path of the kernel `k`: the tests taken on
    the path become anonymous hypotheses and `k args` becomes the leaf; what remains is to evaluate the projections
    (`simp`) and the arithmetic (`omega`).  The call `k args` must not stand under a binder, or it cannot be generalised.
    `k` need not come from `Munge/Gen`: any definition that is a tree of `if`s over closed leaves will do.

    `kcases k with [h, …]` first discards the branches that the facts `h, …` rule out: a test is decided when `simp only`
    can rewrite it to `True` or `False` with them.  No arithmetic simproc is in that `simp only` set: where the facts turn a
    test into a comparison of literals, list `Int.reduceEq` / `Int.reduceLT` among them.

    `kcases k … consuming h`, for statements about every path of a parser: `h : -2147483648 ≤ len ∧ len ≤ 2147483647`
    says that the remaining length is an `int`.  Whenever the test just taken is `¬ n > len`, the subtraction
    `wrapS32 (len - n)` that follows in the C is rewritten to `len - n` in what is still to be analysed (`len_step`), and
    `h` moves on to `len - n`: the tests reach the leaves free of the nested `%` that `omega` would otherwise have to
    eliminate again on every leaf. -/
syntax "kcases " ident (" with " "[" Lean.Parser.Tactic.simpLemma,* "]")? (" consuming " ident)? : tactic
macro_rules
  | `(tactic| kcases $k:ident) => `(tactic| kcases $k:ident with [])
  | `(tactic| kcases $k:ident consuming $h:ident) => `(tactic| kcases $k:ident with [] consuming $h:ident)
  | `(tactic| kcases $k:ident with [$hs,*]) =>
    `(tactic| (generalize ho : $k .. = o at *
               simp only [$k:ident, ↓reduceIte, ne_eq, not_true_eq_false, not_false_eq_true, true_and, and_true, false_and,
                 and_false, true_or, or_true, false_or, or_false, $hs,*] at ho
               revert ho
               repeat' (with_reducible apply ite_eq_elim <;> intro _)
               all_goals (intro ho; subst ho)))
  | `(tactic| kcases $k:ident with [$hs,*] consuming $h:ident) =>
    `(tactic| (generalize ho : $k .. = o at *
               simp only [$k:ident, ↓reduceIte, ne_eq, not_true_eq_false, not_false_eq_true, true_and, and_true, false_and,
                 and_false, true_or, or_true, false_or, or_false, $hs,*] at ho
               revert ho
               repeat' (with_reducible apply ite_eq_elim <;> intro hc <;>
                 try (have st := len_step $h (by omega) hc; rw [st.1]; have $h := st.2; clear st))
               all_goals (intro ho; subst ho)))

end Munge.C

-- `open scoped Munge.Kernel` lets `simp` evaluate the observations of a `KOut` literal
namespace Munge.Kernel
open Munge.C
attribute [scoped simp] KOut.written KOut.err KOut.get KOut.count KOut.calls
end Munge.Kernel
