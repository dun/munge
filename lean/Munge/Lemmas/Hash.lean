import Munge.Model.Hash
/-
The table of `hash.c`, under its invariant `Inv`, refines a set of keys: `step_refines`.
-/
namespace Munge.Hash
open Munge.Gen.Hash

variable {κ : Type}

/-- a comparator that is a strict total order with `0` meaning identity -/
structure CmpOrder (cmp : κ → κ → Int) : Prop where
  eq_iff : ∀ a b, cmp a b = 0 ↔ a = b
  lt_gt : ∀ a b, cmp a b < 0 ↔ 0 < cmp b a
  trans : ∀ a b c, cmp a b < 0 → cmp b c < 0 → cmp a c < 0

def Sorted (cmp : κ → κ → Int) (l : List κ) : Prop := l.Pairwise (fun a b => cmp a b < 0)

/-- The tests of a walk down a sorted chain in search of a key: pass over a node below the key, take the node that
    equals it, stop at anything else; the comparator gets the node first. -/
structure SortedWalk (skip hit : Int → Prop) (nodeFirst : Bool) : Prop where
  skip_iff : ∀ c, skip c ↔ c < 0
  hit_iff : ∀ c, hit c ↔ c = 0
  node_first : nodeFirst = true

/-- The walk tests read from `hash.c` are those (`find_walk`, `insert_walk`, `remove_walk`).  This is where the
    regenerated tests enter: if the source's tests change, these three and everything that rests on them is checked
    against the new ones. -/
theorem find_walk : SortedWalk find_skip find_match find_nodeFirst :=
  ⟨fun _ => by unfold find_skip; omega, fun _ => by unfold find_match; omega, rfl⟩

theorem insert_walk : SortedWalk insert_skip insert_match insert_nodeFirst :=
  ⟨fun _ => by unfold insert_skip; omega, fun _ => by unfold insert_match; omega, rfl⟩

theorem remove_walk : SortedWalk remove_skip remove_match remove_nodeFirst :=
  ⟨fun _ => by unfold remove_skip; omega, fun _ => by unfold remove_match; omega, rfl⟩

theorem delete_sel_iff (v : Int) : delete_sel v ↔ v > 0 := by unfold delete_sel; omega

section chain
variable {cmp : κ → κ → Int} (ho : CmpOrder cmp)
include ho

theorem cmp_self (a : κ) : cmp a a = 0 := (ho.eq_iff a a).2 rfl

/-- a walk looking for `k` at the head `p` of a sorted chain: pass on (and `k` is not `p`), found, or stop because
    everything from here on is above `k` -/
theorem head_cases {p : κ} {rest : List κ} (hs : Sorted cmp (p :: rest)) (k : κ) :
    (cmp p k < 0 ∧ k ≠ p) ∨ (cmp p k = 0 ∧ p = k) ∨ (¬ cmp p k < 0 ∧ ¬ cmp p k = 0 ∧ k ∉ p :: rest) := by
  by_cases h1 : cmp p k < 0
  · exact Or.inl ⟨h1, by rintro rfl; have := cmp_self ho k; omega⟩
  · by_cases h2 : cmp p k = 0
    · exact Or.inr (Or.inl ⟨h2, (ho.eq_iff p k).1 h2⟩)
    · refine Or.inr (Or.inr ⟨h1, h2, fun hm => ?_⟩)
      rcases List.mem_cons.1 hm with rfl | hm
      · exact h2 (cmp_self ho k)
      · exact h1 ((List.pairwise_cons.1 hs).1 k hm)

theorem chainFind_spec (k : κ) : ∀ (l : List κ), Sorted cmp l →
    (k ∈ l → chainFind cmp k l = some k) ∧ (k ∉ l → chainFind cmp k l = none)
  | [], _ => by simp [chainFind]
  | p :: rest, hs => by
    have ih := chainFind_spec k rest (List.pairwise_cons.1 hs).2
    simp only [chainFind, cmpAt, find_walk.node_first, if_true, find_walk.skip_iff, find_walk.hit_iff]
    rcases head_cases ho hs k with ⟨h1, hne⟩ | ⟨h2, rfl⟩ | ⟨h1, h2, hn⟩
    · simpa [h1, hne] using ih
    · simp [h2]
    · simp [h1, h2, hn]

theorem chainInsert_spec (k : κ) : ∀ (l : List κ), Sorted cmp l →
    (k ∈ l → chainInsert cmp k l = none) ∧
    (k ∉ l → ∃ l', chainInsert cmp k l = some l' ∧ Sorted cmp l' ∧ ∀ x, x ∈ l' ↔ x = k ∨ x ∈ l)
  | [], _ => by simp [chainInsert, Sorted]
  | p :: rest, hs => by
    have hs' := List.pairwise_cons.1 hs
    have ih := chainInsert_spec k rest hs'.2
    simp only [chainInsert, cmpAt, insert_walk.node_first, if_true, insert_walk.skip_iff, insert_walk.hit_iff]
    rcases head_cases ho hs k with ⟨h1, hne⟩ | ⟨h2, rfl⟩ | ⟨h1, h2, hn⟩
    · simp only [h1, if_true, List.mem_cons, hne, false_or]
      refine ⟨fun hin => by simp [ih.1 hin], fun hnin => ?_⟩
      obtain ⟨l', he, hsl, hmem⟩ := ih.2 hnin
      refine ⟨p :: l', by simp [he], List.pairwise_cons.2 ⟨fun x hx => ?_, hsl⟩, fun x => by simp [hmem, or_left_comm]⟩
      exact ((hmem x).1 hx).elim (· ▸ h1) (hs'.1 x)
    · simp [h2]
    · simp only [h1, h2, if_false]
      refine ⟨fun hin => absurd hin hn, fun _ => ⟨_, rfl, List.pairwise_cons.2 ⟨fun x hx => ?_, hs⟩, fun x => List.mem_cons⟩⟩
      -- `k` is below `p`, hence below everything after `p`
      have hkp : cmp k p < 0 := (ho.lt_gt k p).2 (by omega)
      exact (List.mem_cons.1 hx).elim (· ▸ hkp) (fun hx => ho.trans _ _ _ hkp (hs'.1 x hx))

theorem chainRemove_spec (k : κ) : ∀ (l : List κ), Sorted cmp l →
    (k ∉ l → chainRemove cmp k l = none) ∧
    (k ∈ l → ∃ l', chainRemove cmp k l = some (k, l') ∧ Sorted cmp l' ∧ ∀ x, x ∈ l' ↔ x ∈ l ∧ x ≠ k)
  | [], _ => by simp [chainRemove]
  | p :: rest, hs => by
    have hs' := List.pairwise_cons.1 hs
    have ih := chainRemove_spec k rest hs'.2
    simp only [chainRemove, cmpAt, remove_walk.node_first, if_true, remove_walk.skip_iff, remove_walk.hit_iff]
    rcases head_cases ho hs k with ⟨h1, hne⟩ | ⟨h2, rfl⟩ | ⟨h1, h2, hn⟩
    · simp only [h1, if_true, List.mem_cons, hne, false_or]
      refine ⟨fun hnin => by simp [ih.1 hnin], fun hin => ?_⟩
      obtain ⟨l', he, hsl, hmem⟩ := ih.2 hin
      refine ⟨p :: l', by simp [he], List.pairwise_cons.2 ⟨fun x hx => hs'.1 x ((hmem x).1 hx).1, hsl⟩, fun x => ?_⟩
      simp only [List.mem_cons, hmem, or_and_right]
      exact or_congr_left (iff_self_and.2 fun e => e ▸ Ne.symm hne)
    · have hnr : p ∉ rest := fun hx => by have := hs'.1 p hx; omega
      simp only [h2, if_true, Int.lt_irrefl, if_false]
      refine ⟨fun hn => absurd List.mem_cons_self hn, fun _ => ⟨rest, rfl, hs'.2, fun x => ?_⟩⟩
      constructor
      · exact fun hx => ⟨List.mem_cons_of_mem _ hx, fun e => hnr (e ▸ hx)⟩
      · exact fun ⟨hx, hne⟩ => (List.mem_cons.1 hx).resolve_left hne
    · rw [if_neg h1, if_neg h2]
      exact ⟨fun _ => rfl, fun hin => absurd hin hn⟩

end chain

namespace Table

theorem size_setChain (t : Table κ) (i : Nat) (c : List κ) : (t.setChain i c).size = t.size := by
  simp [setChain, size]

theorem chain_setChain (t : Table κ) (i j : Nat) (c : List κ) :
    (t.setChain i c).chain j = if i = j ∧ i < t.size then c else t.chain j := by
  simp only [chain, setChain, size, Array.getElem?_setIfInBounds]
  by_cases h : i = j
  · subst h
    by_cases h2 : i < t.buckets.size <;> simp [h2]
  · simp [h]

theorem chain_of_size_le (t : Table κ) {i : Nat} (h : t.size ≤ i) : t.chain i = [] := by
  have : t.buckets[i]? = none := by simp [size] at h; simp; omega
  simp [chain, this]

theorem mem_toList (t : Table κ) (k : κ) : k ∈ t.toList ↔ ∃ i, k ∈ t.chain i := by
  simp only [toList, chain, List.mem_flatten, Array.mem_toList_iff, Array.mem_iff_getElem?]
  constructor
  · rintro ⟨l, ⟨i, hi⟩, hk⟩; exact ⟨i, by simpa [hi]⟩
  · rintro ⟨i, hk⟩
    cases h : t.buckets[i]? with
    | none => simp [h] at hk
    | some l => exact ⟨l, ⟨i, h⟩, by simpa [h] using hk⟩

theorem chain_empty (n i : Nat) : (empty n : Table κ).chain i = [] := by
  simp only [chain, empty, Array.getElem?_replicate]
  split <;> simp

theorem size_empty (n : Nat) : (empty n : Table κ).size = n := by simp [size, empty]

theorem toList_empty (n : Nat) : (empty n : Table κ).toList = [] := by
  simp [toList, empty]

theorem count_eq (t : Table κ) : t.count = t.toList.length := by
  simp [count, toList, List.sum_eq_foldl, List.foldl_map, ← Array.foldl_toList]

end Table

/-- invariant of a table: positive size, sorted chains, every item in the slot its hash selects -/
structure Inv (cmp : κ → κ → Int) (hf : κ → Nat) (t : Table κ) : Prop where
  pos : 0 < t.size
  sorted : ∀ i, Sorted cmp (t.chain i)
  home : ∀ i k, k ∈ t.chain i → hf k % t.size = i

theorem inv_empty (cmp : κ → κ → Int) (hf : κ → Nat) {n : Nat} (h : 0 < n) : Inv cmp hf (Table.empty n) :=
  ⟨by simpa [Table.size_empty] using h, fun i => by simp [Table.chain_empty, Sorted],
   fun i k hk => by simp [Table.chain_empty] at hk⟩

section table
variable {cmp : κ → κ → Int} {hf : κ → Nat} {t : Table κ}

theorem mem_iff_home (hi : Inv cmp hf t) (k : κ) : k ∈ t.toList ↔ k ∈ t.chain (slot hf t k) := by
  rw [Table.mem_toList]
  constructor
  · rintro ⟨i, h⟩
    have := hi.home i k h
    simpa [slot, this] using h
  · exact fun h => ⟨_, h⟩

theorem slot_lt (hi : Inv cmp hf t) (k : κ) : slot hf t k < t.size := Nat.mod_lt _ hi.pos

theorem inv_setChain (hi : Inv cmp hf t) {i : Nat} {c : List κ} (hs : Sorted cmp c)
    (hh : ∀ x ∈ c, hf x % t.size = i) : Inv cmp hf (t.setChain i c) := by
  refine ⟨by rw [Table.size_setChain]; exact hi.pos, fun j => ?_, fun j x hx => ?_⟩
  · rw [Table.chain_setChain]; split
    · exact hs
    · exact hi.sorted j
  · rw [Table.chain_setChain] at hx; rw [Table.size_setChain]
    split at hx
    · rename_i h; exact h.1 ▸ hh x hx
    · exact hi.home j x hx

/-- A chain put in the place of `k`'s that differs from it only as to `k` (`F`: `k` added, or `k` taken out) changes the
    members of the table in the same way. -/
theorem mem_setChain (hi : Inv cmp hf t) (k : κ) {c : List κ} (hs : Sorted cmp c)
    (hh : ∀ x ∈ c, hf x % t.size = slot hf t k) {F : κ → Prop → Prop}
    (hc : ∀ x, x ∈ c ↔ F x (x ∈ t.chain (slot hf t k))) (hF : ∀ x a, x ≠ k → (F x a ↔ a)) (x : κ) :
    x ∈ (t.setChain (slot hf t k) c).toList ↔ F x (x ∈ t.toList) := by
  have hsl : slot hf (t.setChain (slot hf t k) c) x = slot hf t x := by simp [slot, Table.size_setChain]
  rw [mem_iff_home (inv_setChain hi hs hh), mem_iff_home hi, hsl, Table.chain_setChain]
  simp only [slot_lt hi k, and_true]
  split
  · rename_i hx; rw [hc, hx]
  · rename_i hx; exact (hF x _ fun e => hx (e ▸ rfl)).symm

variable (ho : CmpOrder cmp)
include ho

theorem find_spec (hi : Inv cmp hf t) (k : κ) :
    (k ∈ t.toList → find cmp hf t k = some k) ∧ (k ∉ t.toList → find cmp hf t k = none) := by
  rw [mem_iff_home hi]
  exact chainFind_spec ho k _ (hi.sorted _)

theorem insert_dup (hi : Inv cmp hf t) (k : κ) (h : k ∈ t.toList) : insert cmp hf t k = (t, false) := by
  have := (chainInsert_spec ho k _ (hi.sorted (slot hf t k))).1 ((mem_iff_home hi k).1 h)
  simp [insert, this]

theorem insert_new (hi : Inv cmp hf t) (k : κ) (h : k ∉ t.toList) :
    ∃ t', insert cmp hf t k = (t', true) ∧ Inv cmp hf t' ∧ ∀ x, x ∈ t'.toList ↔ x = k ∨ x ∈ t.toList := by
  obtain ⟨l', he, hsl, hmem⟩ := (chainInsert_spec ho k _ (hi.sorted _)).2 (mt (mem_iff_home hi k).2 h)
  have hh : ∀ x ∈ l', hf x % t.size = slot hf t k := fun x hx =>
    ((hmem x).1 hx).elim (· ▸ rfl) (hi.home _ x)
  exact ⟨_, by simp [insert, he], inv_setChain hi hsl hh,
    mem_setChain hi k hsl hh (F := fun x a => x = k ∨ a) hmem fun x a hx => or_iff_right hx⟩

theorem remove_absent (hi : Inv cmp hf t) (k : κ) (h : k ∉ t.toList) : remove cmp hf t k = (t, none) := by
  have hnot : k ∉ t.chain (slot hf t k) := fun hc => h ((mem_iff_home hi k).2 hc)
  have := (chainRemove_spec ho k _ (hi.sorted (slot hf t k))).1 hnot
  simp [remove, this]

theorem remove_present (hi : Inv cmp hf t) (k : κ) (h : k ∈ t.toList) :
    ∃ t', remove cmp hf t k = (t', some k) ∧ Inv cmp hf t' ∧ ∀ x, x ∈ t'.toList ↔ x ∈ t.toList ∧ x ≠ k := by
  obtain ⟨l', he, hsl, hmem⟩ := (chainRemove_spec ho k _ (hi.sorted _)).2 ((mem_iff_home hi k).1 h)
  have hh : ∀ x ∈ l', hf x % t.size = slot hf t k := fun x hx => hi.home _ x ((hmem x).1 hx).1
  exact ⟨_, by simp [remove, he], inv_setChain hi hsl hh,
    mem_setChain hi k hsl hh (F := fun x a => a ∧ x ≠ k) hmem fun x a hx => and_iff_left hx⟩

end table

theorem chain_deleteIf (f : κ → Int) (t : Table κ) (i : Nat) :
    (deleteIf f t).1.chain i = (t.chain i).filter (fun p => !decide (delete_sel (f p))) := by
  simp only [deleteIf, Table.chain, Array.getElem?_map]
  cases t.buckets[i]? <;> simp

theorem size_deleteIf (f : κ → Int) (t : Table κ) : (deleteIf f t).1.size = t.size := by
  simp [deleteIf, Table.size]

theorem toList_deleteIf (f : κ → Int) (t : Table κ) :
    (deleteIf f t).1.toList = t.toList.filter (fun p => !decide (delete_sel (f p))) := by
  simp [deleteIf, Table.toList]

theorem inv_deleteIf {cmp : κ → κ → Int} {hf : κ → Nat} {t : Table κ} (hi : Inv cmp hf t) (f : κ → Int) :
    Inv cmp hf (deleteIf f t).1 := by
  refine ⟨by simpa [size_deleteIf] using hi.pos, fun i => ?_, fun i k hk => ?_⟩
  · rw [chain_deleteIf]; exact List.Pairwise.filter _ (hi.sorted i)
  · rw [chain_deleteIf] at hk; rw [size_deleteIf]
    exact hi.home i k (List.mem_filter.1 hk).1

theorem mem_deleteIf (f : κ → Int) (t : Table κ) (x : κ) :
    x ∈ (deleteIf f t).1.toList ↔ x ∈ t.toList ∧ ¬ (f x > 0) := by
  rw [toList_deleteIf, List.mem_filter]
  have := delete_sel_iff (f x)
  simp only [Bool.not_eq_true', decide_eq_false_iff_not, this]

inductive Op (κ : Type) where
  | insert (k : κ)
  | remove (k : κ)
  | find (k : κ)
  | deleteIf (f : κ → Int)

/-- what the caller of the table sees -/
inductive Res (κ : Type) where
  | inserted | exists | removed (k : κ) | absent | found (k : κ) | notFound | deleted
deriving DecidableEq

def stepTable (cmp : κ → κ → Int) (hf : κ → Nat) (t : Table κ) : Op κ → Table κ × Res κ
  | .insert k => match insert cmp hf t k with
    | (t', true) => (t', .inserted)
    | (t', false) => (t', .exists)
  | .remove k => match remove cmp hf t k with
    | (t', some d) => (t', .removed d)
    | (t', none) => (t', .absent)
  | .find k => (t, match find cmp hf t k with | some d => .found d | none => .notFound)
  | .deleteIf f => ((deleteIf f t).1, .deleted)

/-- the specification: a set of keys (as its characteristic function) -/
def stepSet [DecidableEq κ] (s : κ → Bool) : Op κ → (κ → Bool) × Res κ
  | .insert k => if s k then (s, .exists) else (fun x => x == k || s x, .inserted)
  | .remove k => if s k then (fun x => s x && x != k, .removed k) else (s, .absent)
  | .find k => (s, if s k then .found k else .notFound)
  | .deleteIf f => (fun x => s x && !decide (f x > 0), .deleted)

def runTable (cmp : κ → κ → Int) (hf : κ → Nat) : Table κ → List (Op κ) → Table κ × List (Res κ)
  | t, [] => (t, [])
  | t, o :: os =>
    let r := stepTable cmp hf t o
    let rs := runTable cmp hf r.1 os
    (rs.1, r.2 :: rs.2)

def runSet [DecidableEq κ] : (κ → Bool) → List (Op κ) → (κ → Bool) × List (Res κ)
  | s, [] => (s, [])
  | s, o :: os =>
    let r := stepSet s o
    let rs := runSet r.1 os
    (rs.1, r.2 :: rs.2)

theorem step_refines [DecidableEq κ] {cmp : κ → κ → Int} (ho : CmpOrder cmp) {hf : κ → Nat} {t : Table κ}
    (hi : Inv cmp hf t) {s : κ → Bool} (hr : ∀ x, x ∈ t.toList ↔ s x = true) (o : Op κ) :
    (stepTable cmp hf t o).2 = (stepSet s o).2 ∧ Inv cmp hf (stepTable cmp hf t o).1 ∧
    ∀ x, x ∈ (stepTable cmp hf t o).1.toList ↔ (stepSet s o).1 x = true := by
  have key : ∀ k, (k ∈ t.toList ∧ s k = true) ∨ (k ∉ t.toList ∧ s k = false) := fun k => by
    cases hs : s k
    · exact Or.inr ⟨fun h => by simp [(hr k).1 h] at hs, rfl⟩
    · exact Or.inl ⟨(hr k).2 hs, rfl⟩
  cases o with
  | insert k =>
    rcases key k with ⟨hk, hs⟩ | ⟨hk, hs⟩
    · simp only [stepTable, insert_dup ho hi k hk, stepSet, hs, if_true]
      exact ⟨trivial, hi, hr⟩
    · obtain ⟨t', he, hi', hm⟩ := insert_new ho hi k hk
      simp only [stepTable, he, stepSet, hs, Bool.false_eq_true, if_false]
      exact ⟨trivial, hi', fun x => by rw [hm, hr]; simp⟩
  | remove k =>
    rcases key k with ⟨hk, hs⟩ | ⟨hk, hs⟩
    · obtain ⟨t', he, hi', hm⟩ := remove_present ho hi k hk
      simp only [stepTable, he, stepSet, hs, if_true]
      exact ⟨trivial, hi', fun x => by rw [hm, hr]; simp⟩
    · simp only [stepTable, remove_absent ho hi k hk, stepSet, hs, Bool.false_eq_true, if_false]
      exact ⟨trivial, hi, hr⟩
  | find k =>
    rcases key k with ⟨hk, hs⟩ | ⟨hk, hs⟩
    · simp only [stepTable, (find_spec ho hi k).1 hk, stepSet, hs, if_true]
      exact ⟨trivial, hi, hr⟩
    · simp only [stepTable, (find_spec ho hi k).2 hk, stepSet, hs, Bool.false_eq_true, if_false]
      exact ⟨trivial, hi, hr⟩
  | deleteIf f =>
    exact ⟨rfl, inv_deleteIf hi f, fun x => by simp [stepTable, stepSet, mem_deleteIf, hr]⟩

theorem run_refines [DecidableEq κ] {cmp : κ → κ → Int} (ho : CmpOrder cmp) {hf : κ → Nat} :
    ∀ (ops : List (Op κ)) (t : Table κ) (s : κ → Bool), Inv cmp hf t → (∀ x, x ∈ t.toList ↔ s x = true) →
      (runTable cmp hf t ops).2 = (runSet s ops).2 ∧ Inv cmp hf (runTable cmp hf t ops).1 ∧
      ∀ x, x ∈ (runTable cmp hf t ops).1.toList ↔ (runSet s ops).1 x = true
  | [], _, _, hi, hr => ⟨rfl, hi, hr⟩
  | o :: os, t, s, hi, hr => by
    obtain ⟨h1, h2, h3⟩ := step_refines ho hi hr o
    obtain ⟨g1, g2, g3⟩ := run_refines ho os _ _ h2 h3
    simp only [runTable, runSet]
    exact ⟨by rw [h1, g1], g2, g3⟩

end Munge.Hash
