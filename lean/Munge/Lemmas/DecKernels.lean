import Munge.Gen.Dec
import Munge.Lemmas.Kernel
/-
What the translated decision kernels of dec.c / enc.c can answer: the return value together with the error code of the
`m_msg_set_err` call on that path, and for the request, retry and replay kernels on which inputs.  The stage lemmas of the
credential model need nothing else of them.
-/
namespace Munge.Cred
open Munge.Gen.Dec Munge.C
open scoped Munge.Kernel

theorem dec_validate_msg_out (len ptr : Int) :
    ((dec_validate_msg len ptr).ret < 0 ↔ len = 0 ∨ ptr = 0) ∧
    (((dec_validate_msg len ptr).ret = 0 ∧ (dec_validate_msg len ptr).err = 0) ∨
     ((dec_validate_msg len ptr).ret = -1 ∧ (dec_validate_msg len ptr).err = 1)) := by
  kcases dec_validate_msg <;> simp [*]

/-- 5 is MUNGE_SOCKET_RETRY_ATTEMPTS -/
theorem dec_check_retry_out (retry uid gid : Int) :
    ((dec_check_retry retry uid gid).ret < 0 ↔ retry > 5) ∧
    (((dec_check_retry retry uid gid).ret = 0 ∧ (dec_check_retry retry uid gid).err = 0) ∨
     ((dec_check_retry retry uid gid).ret = -1 ∧ (dec_check_retry retry uid gid).err = 6)) := by
  kcases dec_check_retry <;> simp [*]

theorem enc_check_retry_out (retry uid gid : Int) :
    ((enc_check_retry retry uid gid).ret < 0 ↔ retry > 5) ∧
    (((enc_check_retry retry uid gid).ret = 0 ∧ (enc_check_retry retry uid gid).err = 0) ∨
     ((enc_check_retry retry uid gid).ret = -1 ∧ (enc_check_retry retry uid gid).err = 6)) := by
  kcases enc_check_retry <;> simp [*]

theorem dec_validate_auth_out (a b c d e : Int) (f : Int → Int → Int) :
    ((dec_validate_auth a b c d e f).ret = 0 ∧ (dec_validate_auth a b c d e f).err = 0) ∨
    ((dec_validate_auth a b c d e f).ret = -1 ∧ (dec_validate_auth a b c d e f).err = 18) := by
  kcases dec_validate_auth <;> simp

theorem dec_validate_time_out (a b c d e : Int) :
    ((dec_validate_time a b c d e).ret = 0 ∧ (dec_validate_time a b c d e).err = 0) ∨
    ((dec_validate_time a b c d e).ret = -1 ∧
      ((dec_validate_time a b c d e).err = 15 ∨ (dec_validate_time a b c d e).err = 16)) := by
  kcases dec_validate_time <;> simp

/-- By the answer `ins` of `replay_insert`: a new record (0) is accepted; a duplicate (> 0) is accepted as a flagged
    retry (retries enabled, retry byte in 1..5) and REPLAYED otherwise; a failed insertion (< 0) is an internal error. -/
theorem dec_validate_replay_out (retry gsr errno uid gid ins : Int) :
    ((dec_validate_replay retry gsr errno uid gid ins).ret = 0 ∧ (dec_validate_replay retry gsr errno uid gid ins).err = 0 ∧
      (ins = 0 ∨ (0 < ins ∧ wrapS32 gsr ≠ 0 ∧ 0 < retry ∧ retry ≤ 5))) ∨
    ((dec_validate_replay retry gsr errno uid gid ins).ret = -1 ∧ (dec_validate_replay retry gsr errno uid gid ins).err = 17 ∧
      0 < ins ∧ ¬ (wrapS32 gsr ≠ 0 ∧ 0 < retry ∧ retry ≤ 5)) ∨
    ((dec_validate_replay retry gsr errno uid gid ins).ret = -1 ∧ ins < 0 ∧
      ((dec_validate_replay retry gsr errno uid gid ins).err = 5 ∨ (dec_validate_replay retry gsr errno uid gid ins).err = 1)) := by
  kcases dec_validate_replay <;> simp <;> omega

theorem dec_validate_replay_new (retry gsr uid gid : Int) : ¬ (dec_validate_replay retry gsr 0 uid gid 0).ret < 0 := by
  have := dec_validate_replay_out retry gsr 0 uid gid 0
  omega

theorem dec_validate_replay_dup (retry gsr uid gid : Int) :
    ((dec_validate_replay retry gsr 0 uid gid 1).ret < 0 ↔ ¬ (wrapS32 gsr ≠ 0 ∧ 0 < retry ∧ retry ≤ 5)) ∧
    ((dec_validate_replay retry gsr 0 uid gid 1).ret < 0 → (dec_validate_replay retry gsr 0 uid gid 1).err = 17) := by
  have := dec_validate_replay_out retry gsr 0 uid gid 1
  omega

theorem dec_validate_replay_ret (a b c d e ins : Int) :
    (dec_validate_replay a b c d e ins).ret < 0 ∨ (dec_validate_replay a b c d e ins).ret = 0 := by
  have := dec_validate_replay_out a b c d e ins
  omega

theorem enc_validate_msg_err_pos (a b c d e f g h i j : Int) (f1 f2 f3 f4 f5 : Int → Int)
    (hr : (enc_validate_msg a b c d e f g h i j f1 f2 f3 f4 f5).ret < 0) :
    0 < (enc_validate_msg a b c d e f g h i j f1 f2 f3 f4 f5).err := by
  revert hr
  kcases enc_validate_msg <;> simp

theorem err_of_out {k : KOut} {c : Int} (h : (k.ret = 0 ∧ k.err = 0) ∨ (k.ret = -1 ∧ k.err = c)) (hv : k.ret < 0) :
    k.err = c := by
  rcases h with h | h
  · omega
  · exact h.2

end Munge.Cred
