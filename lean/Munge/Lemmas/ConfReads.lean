import Munge.Model.Cred
/-!
The configuration fields the credential pipeline depends on.

`Munge.Gen.Dec.confReads` is regenerated from the source on every run: per file of the pipeline, the `conf->field`s it
mentions.  `Munge.Cred.Conf` (the model's configuration) and the `cred conf` op of harness/h_cred.c carry exactly these
(`gids`, the group map of C17, as `Env.member`), so the theorems that quantify over every `cf : Conf` quantify over every
configuration the pipeline can observe.  A new dependence (a mode flag consulted by enc.c, say) changes the generated
table and breaks the theorem below.
-/
namespace Munge.Cred
open Munge.Gen.Dec

def confAsModelled : List (String × List String) := [
  ("enc.c", ["addr", "def_cipher", "def_mac", "def_ttl", "def_zip", "dek_key", "dek_key_len", "mac_key", "mac_key_len", "max_ttl"]),
  ("dec.c", ["dek_key", "dek_key_len", "gids", "got_clock_skew", "got_root_auth", "got_socket_retry", "mac_key", "mac_key_len", "max_ttl"]),
  ("cred.c", []), ("zip.c", []), ("cipher.c", []), ("base64.c", []), ("mac.c", []), ("md.c", []), ("m_msg.c", [])]

theorem conf_reads_as_modelled : confReads = confAsModelled := rfl

end Munge.Cred
