import Munge.Lemmas.CredMsg
import Munge.Lemmas.DecKernels
import Munge.Model.PrimLaws
import Munge.Model.SpecV3
/-
`enc_process_msg`: option resolution (`encValidate`), the guard chain, and the success path as a function of the
validated message (`encSuccess`); the fields of the credential it emits (`encF`) and their well-formedness.  Namespace `B`
holds the encode side of the round trip (CredRound): the success path and `encF`; the name means nothing more.
-/
namespace Munge.Cred
open Munge.Gen.Dec Munge.C

namespace B

/-- DEFAULT (1) selects the daemon's value, which `enc_validate_msg` stores through a `uint8_t` -/
theorem sel_toNat (a : Nat) {d : Nat} (hd : d < 256) :
    (if (a : Int) = 1 then wrapU8 (d : Int) else (a : Int)).toNat = if a = 1 then d else a := by
  rw [wrapU8_id (by omega) (by omega)]
  split <;> split <;> omega

theorem sel_ok {Q : Nat → Prop} {a d : Nat} (hd : Q d) (ha : a = 1 ∨ Q a) : Q (if a = 1 then d else a) := by
  split
  · exact hd
  · exact ha.resolve_left ‹_›

/-- what a successful `enc_validate_msg` leaves in the message and has checked (`small`: the configured defaults are
    `uint8_t` values, so storing them loses nothing) -/
theorem encValidate_ok (P : Prims) (cf : Conf) (m0 : Msg) (h : 0 ≤ (encValidate P cf m0).ret)
    (small : cf.defCipher < 256 ∧ cf.defMac < 256 ∧ cf.defZip < 256) :
    (applyWrites m0 (encValidate P cf m0) "m.").cipher = (if m0.cipher = 1 then cf.defCipher else m0.cipher) ∧
    (applyWrites m0 (encValidate P cf m0) "m.").mac = (if m0.mac = 1 then cf.defMac else m0.mac) ∧
    (applyWrites m0 (encValidate P cf m0) "m.").zip =
      (if m0.dataLen = 0 then 0 else if m0.zip = 1 then cf.defZip else m0.zip) ∧
    ((applyWrites m0 (encValidate P cf m0) "m.").ttl : Int) =
      (if m0.ttl = 0 then wrapU32 cf.defTtl else if (m0.ttl : Int) > wrapU32 cf.maxTtl then wrapU32 cf.maxTtl else m0.ttl) ∧
    (m0.cipher = 1 ∨ m0.cipher = 0 ∨ P.cipherValid m0.cipher = true) ∧
    (m0.mac = 1 ∨ P.macValid m0.mac = true) ∧
    P.keyLen (if m0.cipher = 1 then cf.defCipher else m0.cipher) ≤ P.macLen (if m0.mac = 1 then cf.defMac else m0.mac) ∧
    (m0.zip = 1 ∨ m0.zip = 0 ∨ P.zipValid m0.zip = true) := by
  unfold encValidate at h ⊢
  unfold applyWrites
  kcases enc_validate_msg
  -- the paths in source order: the four `return -1` (cipher, MAC, key length, zip), then success with those four tests negated
  iterate 4 exact absurd h (by dsimp only; decide)
  rename_i c1 c2 c3 c4
  simp only [KOut.get, KOut.written, List.find?, Option.map, Option.getD, String.reduceBEq, String.reduceAppend]
  rw [sel_toNat _ small.1, sel_toNat _ small.2.1] at c3
  refine ⟨sel_toNat _ small.1, sel_toNat _ small.2.1, ?_, ?_, ?_, ?_, by omega, ?_⟩
  · by_cases hd : m0.dataLen = 0
    · rw [if_pos hd, if_pos (by omega)]; rfl
    · rw [if_neg hd, if_neg (by omega)]; exact sel_toNat _ small.2.2
  · have := wrapU32_range cf.defTtl; have := wrapU32_range cf.maxTtl
    split <;> split <;> (try split) <;> (try split) <;> omega
  · cases hv : P.cipherValid m0.cipher
    · simp [hv] at c1; omega
    · exact .inr (.inr rfl)
  · cases hv : P.macValid m0.mac
    · simp [hv] at c2; omega
    · exact .inr rfl
  · cases hv : P.zipValid m0.zip
    · simp [hv, b2int] at c4; omega
    · exact .inr (.inr rfl)

/-- the success path of `encProcess` from the validated message `m1` on, written as the model writes it so that
    `encProcess_eq` holds by `rfl`; `encSuccess_eq` gives it by stages -/
def encSuccess (P : Prims) (cf : Conf) (env : Env) (m1 : Msg) (uid gid : Nat) : Msg :=
  let salt := rndTake env.rnd 0 MUNGE_CRED_SALT_LEN.toNat
  let ivLen := if m1.cipher = 0 then 0 else (P.ivLen m1.cipher).toNat
  let iv := rndTake env.rnd MUNGE_CRED_SALT_LEN.toNat ivLen
  let m := { m1 with clientUid := uid, clientGid := gid, time0 := (wrapU32 env.now).toNat, time1 := 0, addrLen := 4 }
  let inner := packInner cf m salt
  let z := if m.zip = 0 then inner else zipCompress P m.zip inner
  let useZip := m.zip ≠ 0 ∧ z.length < inner.length
  let m := if m.zip ≠ 0 ∧ ¬ useZip then { m with zip := 0 } else m
  let outer := packOuter m iv
  let inner := if useZip then z else inner
  let macv := P.mac m.mac cf.macKey (outer ++ inner)
  let inner := if m.cipher = 0 then inner else
    let dek := P.mac m.mac cf.dekKey macv
    P.encrypt m.cipher dek iv inner
  let cred := armor outer macv inner
  { m with data := cred, dataLen := cred.length }

section
open Munge.SpecV3
/- The stages of `encSuccess`, each as a function of the validated message `m1`: the message that is packed, salt and IV,
   the packed inner layer, whether compression pays, the zip type reported, the (compressed) plaintext, the outer
   layer, the MAC, and the armored credential. -/
def encMsg (env : Env) (m1 : Msg) (uid gid : Nat) : Msg :=
  { m1 with clientUid := uid, clientGid := gid, time0 := (wrapU32 env.now).toNat, time1 := 0, addrLen := 4 }
def encSalt (env : Env) : Bytes := rndTake env.rnd 0 MUNGE_CRED_SALT_LEN.toNat
def encIv (P : Prims) (env : Env) (c : Nat) : Bytes :=
  rndTake env.rnd MUNGE_CRED_SALT_LEN.toNat (if c = 0 then 0 else (P.ivLen c).toNat)
def encInner (cf : Conf) (env : Env) (m1 : Msg) (uid gid : Nat) : Bytes := packInner cf (encMsg env m1 uid gid) (encSalt env)
def encUseZip (P : Prims) (cf : Conf) (env : Env) (m1 : Msg) (uid gid : Nat) : Prop :=
  m1.zip ≠ 0 ∧ (zipCompress P m1.zip (encInner cf env m1 uid gid)).length < (encInner cf env m1 uid gid).length
instance (P : Prims) (cf : Conf) (env : Env) (m1 : Msg) (uid gid : Nat) : Decidable (encUseZip P cf env m1 uid gid) := by
  unfold encUseZip; infer_instance
def encZip (P : Prims) (cf : Conf) (env : Env) (m1 : Msg) (uid gid : Nat) : Nat :=
  if encUseZip P cf env m1 uid gid then m1.zip else 0
def encPlain (P : Prims) (cf : Conf) (env : Env) (m1 : Msg) (uid gid : Nat) : Bytes :=
  if encUseZip P cf env m1 uid gid then zipCompress P m1.zip (encInner cf env m1 uid gid) else encInner cf env m1 uid gid
def encOuter (P : Prims) (cf : Conf) (env : Env) (m1 : Msg) (uid gid : Nat) : Bytes :=
  packOuter { m1 with zip := encZip P cf env m1 uid gid } (encIv P env m1.cipher)
def encTag (P : Prims) (cf : Conf) (env : Env) (m1 : Msg) (uid gid : Nat) : Bytes :=
  P.mac m1.mac cf.macKey (encOuter P cf env m1 uid gid ++ encPlain P cf env m1 uid gid)
def encCred (P : Prims) (cf : Conf) (env : Env) (m1 : Msg) (uid gid : Nat) : Bytes :=
  armor (encOuter P cf env m1 uid gid) (encTag P cf env m1 uid gid)
    (if m1.cipher = 0 then encPlain P cf env m1 uid gid else
      P.encrypt m1.cipher (P.mac m1.mac cf.dekKey (encTag P cf env m1 uid gid)) (encIv P env m1.cipher) (encPlain P cf env m1 uid gid))

theorem encIv_length (P : Prims) (env : Env) (c : Nat) :
    (encIv P env c).length = if c = 0 then 0 else (P.ivLen c).toNat := rndTake_length _ _ _

/-- compression is reported as requested, or as none when it did not pay -/
theorem encZip_cases (P : Prims) (cf : Conf) (env : Env) (m1 : Msg) (uid gid : Nat) :
    encZip P cf env m1 uid gid = 0 ∨ encZip P cf env m1 uid gid = m1.zip := by
  unfold encZip
  split
  · exact .inr rfl
  · exact .inl rfl

theorem encCred_ne_nil (P : Prims) (cf : Conf) (env : Env) (m1 : Msg) (uid gid : Nat) : encCred P cf env m1 uid gid ≠ [] := by
  unfold encCred armor
  exact List.append_ne_nil_of_right_ne_nil _ (List.cons_ne_nil _ _)

/-- `encSuccess` re-assigns `zip := 0` when compression does not pay; `encZip` is the value it ends with, in each of the three
    cases (none requested; requested and shorter; requested and not shorter). -/
theorem encSuccess_eq (P : Prims) (cf : Conf) (env : Env) (m1 : Msg) (uid gid : Nat) :
    encSuccess P cf env m1 uid gid =
      { encMsg env m1 uid gid with zip := encZip P cf env m1 uid gid, data := encCred P cf env m1 uid gid,
                                   dataLen := (encCred P cf env m1 uid gid).length } := by
  unfold encSuccess encCred encTag encOuter encPlain encZip
  by_cases hz : m1.zip = 0
  · have hu : ¬ encUseZip P cf env m1 uid gid := fun h => h.1 hz
    simp only [hu, if_false]
    simp [hz, encMsg, encInner, encSalt, encIv, packOuter]
  · by_cases hu : encUseZip P cf env m1 uid gid
    · simp only [hu, if_true]
      have hu' := hu
      unfold encUseZip encInner encSalt encMsg at hu'
      simp [hz, hu'.2, encMsg, encInner, encSalt, encIv, packOuter]
    · simp only [hu, if_false]
      have hu' := hu
      unfold encUseZip encInner encSalt encMsg at hu'
      simp only [ne_eq, hz, not_false_eq_true, true_and] at hu'
      simp [hz, hu', encMsg, encInner, encSalt, encIv, packOuter]

def encF (P : Prims) (cf : Conf) (env : Env) (m1 : Msg) (uid gid : Nat) : Fields :=
  { cipher := m1.cipher, mac := m1.mac, zip := encZip P cf env m1 uid gid, realm := m1.realm.take m1.realmLen,
    iv := encIv P env m1.cipher, salt := encSalt env, addr := cf.addr.take 4,
    time0 := (wrapU32 env.now).toNat, ttl := m1.ttl, uid := uid, gid := gid,
    authUid := m1.authUid, authGid := m1.authGid, payload := m1.data }

end

end B
open B

/-- a failure exit of `enc_process_msg`: the error is set, the message reset and sent -/
def encFail (m : Msg) (e : Int) (s : String) : Msg × Int := (reset (setErr m e (some s)), -1)

theorem encProcess_eq (P : Prims) (cf : Conf) (env : Env) (m0 : Msg) :
    encProcess P cf env m0 =
      let v := encValidate P cf m0
      let m := applyWrites m0 v "m."
      if v.ret < 0 then encFail m v.err (encValidateText P m0 m v.err) else
      match env.peer with
      | none => encFail m EMUNGE_SNAFU "Failed to determine client identity"
      | some (uid, gid) =>
        let mc := { m with clientUid := uid, clientGid := gid }
        let r := enc_check_retry m.retry uid gid
        if r.ret < 0 then encFail mc r.err "Exceeded maximum number of encode attempts" else
        if env.now = -1 then encFail mc EMUNGE_SNAFU "Failed to query current time" else
        (encSuccess P cf env m uid gid, 0) := by
  rfl

theorem encProcess_spec (P : Prims) (cf : Conf) (env : Env) (m0 : Msg) :
    (∃ m', encProcess P cf env m0 = (reset m', -1) ∧ m'.errorNum ≠ 0) ∨
    ∃ uid gid, env.peer = some (uid, gid) ∧ 0 ≤ (encValidate P cf m0).ret ∧ env.now ≠ -1 ∧
      encProcess P cf env m0 = (encSuccess P cf env (applyWrites m0 (encValidate P cf m0) "m.") uid gid, 0) := by
  rw [encProcess_eq]
  dsimp only
  split
  · exact .inl ⟨_, rfl, setErr_errorNum_ne_zero _ _ (enc_validate_msg_err_pos _ _ _ _ _ _ _ _ _ _ _ _ _ _ _ ‹_›)⟩
  split
  · exact .inl ⟨_, rfl, setErr_errorNum_ne_zero _ _ (by decide)⟩
  split
  · exact .inl ⟨_, rfl, setErr_errorNum_ne_zero _ _ (by rw [err_of_out (enc_check_retry_out _ _ _).2 ‹_›]; decide)⟩
  split
  · exact .inl ⟨_, rfl, setErr_errorNum_ne_zero _ _ (by decide)⟩
  · exact .inr ⟨_, _, ‹_›, by omega, ‹_›, rfl⟩

theorem encProcess_ok (P : Prims) (cf : Conf) (env : Env) (m0 : Msg) (hok : (encProcess P cf env m0).2 = 0) :
    ∃ uid gid, env.peer = some (uid, gid) ∧ 0 ≤ (encValidate P cf m0).ret ∧ env.now ≠ -1 ∧
      (encProcess P cf env m0).1 = encSuccess P cf env (applyWrites m0 (encValidate P cf m0) "m.") uid gid := by
  rcases encProcess_spec P cf env m0 with ⟨m', h, _⟩ | ⟨uid, gid, hp, hv, hn, h⟩
  · rw [h] at hok; cases hok
  · exact ⟨uid, gid, hp, hv, hn, by rw [h]⟩

/-- the converse: these four conditions are all an encode needs -/
theorem encProcess_of (P : Prims) (cf : Conf) (env : Env) (m0 : Msg) (uid gid : Nat)
    (hp : env.peer = some (uid, gid)) (hv : 0 ≤ (encValidate P cf m0).ret) (hr : m0.retry ≤ 5) (hnow : env.now ≠ -1) :
    encProcess P cf env m0 = (encSuccess P cf env (applyWrites m0 (encValidate P cf m0) "m.") uid gid, 0) := by
  rw [encProcess_eq]
  simp only [show ¬ (encValidate P cf m0).ret < 0 by omega, if_false, hp]
  rw [if_neg (by rw [(enc_check_retry_out _ uid gid).1]; show ¬ (m0.retry : Int) > 5; omega), if_neg hnow]

theorem packInner_uid_gid (cf : Conf) (m : Msg) (salt : Bytes) (hs : salt.length = 8) (ha : 4 ≤ cf.addr.length) :
    ∃ pre post, pre.length = 21 ∧ ∀ uid gid,
      packInner cf { m with clientUid := uid, clientGid := gid, addrLen := 4 } salt = pre ++ ((be32 uid ++ be32 gid) ++ post) := by
  refine ⟨salt ++ [4] ++ cf.addr.take 4 ++ be32 m.time0 ++ be32 m.ttl,
    be32 m.authUid ++ be32 m.authGid ++ be32 m.dataLen ++ m.data.take m.dataLen, ?_, fun _ _ => ?_⟩
  · simp only [List.length_append, List.length_take, C.be32_length, List.length_cons, List.length_nil, hs]
    omega
  · simp only [packInner, List.append_assoc]

/-- the request with its identity-looking fields overwritten -/
def withId (m : Msg) (a b c d : Nat) : Msg :=
  { m with clientUid := a, clientGid := b, credUid := c, credGid := d }

theorem setErr_withId (m : Msg) (a b c d : Nat) (e : Int) (s : Option String) :
    setErr (withId m a b c d) e s = withId (setErr m e s) a b c d := by
  unfold setErr
  by_cases h : m.errorNum = 0 ∧ e ≠ 0
  · rw [if_pos h, if_pos (show (withId m a b c d).errorNum = 0 ∧ e ≠ 0 from h)]; rfl
  · rw [if_neg h, if_neg (show ¬ ((withId m a b c d).errorNum = 0 ∧ e ≠ 0) from h)]

theorem encSuccess_withId (P : Prims) (cf : Conf) (env : Env) (m : Msg) (a b c d uid gid : Nat) :
    encSuccess P cf env (withId m a b c d) uid gid = withId (encSuccess P cf env m uid gid) uid gid c d := by
  rw [encSuccess_eq, encSuccess_eq]; rfl

/-- the failure exits commute with `withId`, the success path does by `encSuccess_withId`, and `encRsp` sends none of the
    four fields -/
theorem encProcess_withId (P : Prims) (cf : Conf) (env : Env) (m : Msg) (a b c d : Nat) :
    encRsp (encProcess P cf env (withId m a b c d)).1 = encRsp (encProcess P cf env m).1 ∧
    (encProcess P cf env (withId m a b c d)).2 = (encProcess P cf env m).2 := by
  rw [encProcess_eq, encProcess_eq]
  simp only [show encValidate P cf (withId m a b c d) = encValidate P cf m from rfl,
    show ∀ v p, applyWrites (withId m a b c d) v p = withId (applyWrites m v p) a b c d from fun _ _ => rfl,
    show ∀ m' e, encValidateText P (withId m a b c d) (withId m' a b c d) e = encValidateText P m m' e
      from fun _ _ => rfl, encFail]
  generalize encValidate P cf m = v
  generalize applyWrites m v "m." = mw
  by_cases hv : v.ret < 0
  · rw [if_pos hv, if_pos hv, setErr_withId]; exact ⟨rfl, rfl⟩
  rw [if_neg hv, if_neg hv]
  rcases env.peer with _ | ⟨uid, gid⟩
  · dsimp only; rw [setErr_withId]; exact ⟨rfl, rfl⟩
  have e0 : ∀ x : Msg, ({ withId x a b c d with clientUid := uid, clientGid := gid } : Msg) = withId x uid gid c d := fun _ => rfl
  have e1 : ∀ x : Msg, ({ x with clientUid := uid, clientGid := gid } : Msg) = withId x uid gid x.credUid x.credGid := fun _ => rfl
  simp only [e0]
  rw [e1 mw]
  simp only [setErr_withId, encSuccess_withId, show (withId mw a b c d).retry = mw.retry from rfl]
  by_cases hr : (enc_check_retry mw.retry uid gid).ret < 0
  · rw [if_pos hr, if_pos hr]; exact ⟨rfl, rfl⟩
  rw [if_neg hr, if_neg hr]
  by_cases hn : env.now = -1
  · rw [if_pos hn, if_pos hn]; exact ⟨rfl, rfl⟩
  · rw [if_neg hn, if_neg hn]; exact ⟨rfl, rfl⟩

namespace B
open Munge.SpecV3
theorem encF_WF (P : Prims) (L : PrimLaws P) (cf : Conf) (env : Env) (m : Msg) (uid gid : Nat)
    (hv : 0 ≤ (encValidate P cf m).ret)
    (hdc : cf.defCipher = 0 ∨ P.cipherValid cf.defCipher = true) (hdm : P.macValid cf.defMac = true)
    (hdz : cf.defZip = 0 ∨ P.zipValid cf.defZip = true)
    (small : cf.defCipher < 256 ∧ cf.defMac < 256 ∧ cf.defZip < 256)
    (hc : m.cipher < 256) (hmc : m.mac < 256) (hz : m.zip < 256) (hrl : m.realmLen < 255)
    (httl : m.ttl < 4294967296) (hau : m.authUid < 4294967296 ∧ m.authGid < 4294967296)
    (hid : uid < 4294967296 ∧ gid < 4294967296) (hdata : m.data.length ≤ 1048576) (ha : cf.addr.length = 4) :
    WF P (encF P cf env (applyWrites m (encValidate P cf m) "m.") uid gid) := by
  obtain ⟨v1, v2, v3, v4, v5, v6, v7, v8⟩ := encValidate_ok P cf m hv small
  obtain ⟨s1, s2, s3⟩ := small
  have h1 := wrapU32_range cf.defTtl
  have h2 := wrapU32_range cf.maxTtl
  have hw := wrapU32_range env.now
  -- the validated message keeps realm, restrictions and payload of the request; only what the facts above speak of is new
  have key : ∀ m1 : Msg, m1.cipher = (if m.cipher = 1 then cf.defCipher else m.cipher) →
      m1.mac = (if m.mac = 1 then cf.defMac else m.mac) →
      m1.zip = (if m.dataLen = 0 then 0 else if m.zip = 1 then cf.defZip else m.zip) →
      (m1.ttl : Int) = (if m.ttl = 0 then wrapU32 cf.defTtl else if (m.ttl : Int) > wrapU32 cf.maxTtl then wrapU32 cf.maxTtl else m.ttl) →
      m1.realmLen = m.realmLen → m1.authUid = m.authUid → m1.authGid = m.authGid → m1.data = m.data →
      WF P (encF P cf env m1 uid gid) := by
    intro m1 e1 e2 e3 e4 e5 e6 e7 e8
    have hcok : m1.cipher = 0 ∨ P.cipherValid m1.cipher = true := by
      rw [e1]; exact sel_ok (Q := fun c => c = 0 ∨ P.cipherValid c = true) hdc v5
    have hzok : m1.zip = 0 ∨ P.zipValid m1.zip = true := by
      rw [e3]; split
      · exact .inl rfl
      · exact sel_ok (Q := fun z => z = 0 ∨ P.zipValid z = true) hdz v8
    have hz256 : m1.zip < 256 := by
      rw [e3]; repeat' split
      all_goals omega
    refine { cipher_ok := hcok, mac_ok := ?mac, dek_ok := ?dek, zip_ok := ?zip, realm_len := ?realm, iv_len := ?iv,
             salt_len := rndTake_length _ _ _, addr_len := .inl ?addr,
             ranges := ⟨?c, ?m, ?z, ?t0, ?ttl, hid.1, hid.2, ?au, ?ag, ?data⟩ } <;> dsimp only [encF]
    case mac => rw [e2]; exact sel_ok (Q := fun x => P.macValid x = true) hdm v6
    case dek => rw [e1, e2]; exact v7
    case zip =>
      rcases encZip_cases P cf env m1 uid gid with h | h
      · exact .inl h
      · rw [h]; exact hzok
    case realm => rw [List.length_take]; omega
    case iv =>
      rw [encIv_length]
      by_cases h0 : m1.cipher = 0
      · simp only [h0, if_true]; rfl
      · simp only [h0, if_false]; exact Int.toNat_of_nonneg (L.ivLen_range _ (hcok.resolve_left h0)).1
    case addr => rw [List.length_take]; omega
    case c => rw [e1]; split <;> omega
    case m => rw [e2]; split <;> omega
    case z =>
      rcases encZip_cases P cf env m1 uid gid with h | h <;> rw [h]
      · decide
      · exact hz256
    case t0 => omega
    case ttl =>
      have : (m1.ttl : Int) < 4294967296 := by
        rw [e4]; repeat' split
        all_goals omega
      omega
    case au => rw [e6]; exact hau.1
    case ag => rw [e7]; exact hau.2
    case data => rw [e8]; exact hdata
  exact key _ v1 v2 v3 v4 rfl rfl rfl rfl
end B

end Munge.Cred
