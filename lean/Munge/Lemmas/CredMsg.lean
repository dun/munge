import Munge.Lemmas.Bytes
/-
The message record on the daemon side: `m_msg_set_err` (first error wins), `m_msg_reset`, the header tests of
`m_msg_recv` (`recvMsg_eq`, `HdrOk`), and the replies built from the record.
-/
namespace Munge.Cred
open Munge.Gen.Dec Munge.C

theorem setErr_frame (m : Msg) (e : Int) (s : Option String) :
    setErr m e s = { m with errorNum := (setErr m e s).errorNum, errorStr := (setErr m e s).errorStr } := by
  unfold setErr; split <;> rfl

theorem setErr_retry (m : Msg) (e : Int) (s : Option String) : (setErr m e s).retry = m.retry := by
  rw [setErr_frame]

theorem setErr_of_zero (m : Msg) {e : Int} (s : Option String) (hm : m.errorNum = 0) (he : e ≠ 0) :
    (setErr m e s).errorNum = e.toNat ∧ (setErr m e s).errorStr = s.getD (strerrorTbl.getD e.toNat "Unknown") := by
  unfold setErr
  rw [if_pos ⟨hm, he⟩]
  exact ⟨rfl, rfl⟩

theorem setErr_of_nonzero (m : Msg) (e : Int) (s : Option String) (hm : m.errorNum ≠ 0) : setErr m e s = m := by
  unfold setErr
  rw [if_neg (fun h => hm h.1)]

theorem setErr_errorNum_ne_zero (m : Msg) {e : Int} (s : Option String) (he : 0 < e) : (setErr m e s).errorNum ≠ 0 := by
  by_cases hm : m.errorNum = 0
  · rw [(setErr_of_zero m s hm (by omega)).1]; omega
  · rw [setErr_of_nonzero m e s hm]; exact hm

theorem setErr_invalid (m : Msg) (h0 : m.errorNum = 0) :
    (setErr m EMUNGE_CRED_INVALID none).errorNum = 14 ∧ (setErr m EMUNGE_CRED_INVALID none).errorStr = "Invalid credential" := by
  have := setErr_of_zero m none h0 (by decide : EMUNGE_CRED_INVALID ≠ 0)
  rw [this.1, this.2]
  exact ⟨by decide, by decide⟩

theorem reset_retry (m : Msg) : (reset m).retry = m.retry := rfl
theorem reset_errorNum (m : Msg) : (reset m).errorNum = m.errorNum := rfl
theorem reset_errorStr (m : Msg) : (reset m).errorStr = m.errorStr := rfl

/- the five header fields as `recvMsg` reads them -/
def hMagic (req : Bytes) : Nat := rd32 (req.take 4)
def hVer (req : Bytes) : Nat := (req.getD 4 0).toNat
def hType (req : Bytes) : Nat := (req.getD 5 0).toNat
def hRetry (req : Bytes) : Nat := (req.getD 6 0).toNat
def hLen (req : Bytes) : Nat := rd32 ((req.drop 7).take 4)

/-- the ENC_REQ branch of `recvMsg` -/
def recvEncBody (retry : Nat) (body : Bytes) : Recv :=
  match body with
  | c :: mc :: z :: rl :: rest =>
    match takeField rest rl.toNat with
    | none => .drop "unpack"
    | some (realm, rest) =>
      if rest.length < 12 then .drop "unpack" else
      let ttl := rd32 (rest.take 4)
      let au := rd32 ((rest.drop 4).take 4)
      let ag := rd32 ((rest.drop 8).take 4)
      let rest := rest.drop 12
      if rest.length < 4 then .drop "unpack" else
      let dl := rd32 (rest.take 4)
      match takeField (rest.drop 4) dl with
      | none => .drop "unpack"
      | some (data, _) =>
        .enc { type := 2, retry := retry, cipher := c.toNat, mac := mc.toNat, zip := z.toNat,
               realmLen := rl.toNat, realm := realm, ttl := ttl, authUid := au, authGid := ag,
               dataLen := dl, data := data }
  | _ => .drop "unpack"

/-- the DEC_REQ branch of `recvMsg` -/
def recvDecBody (retry : Nat) (body : Bytes) : Recv :=
  if body.length < 4 then .drop "unpack" else
  let dl := rd32 (body.take 4)
  match takeField (body.drop 4) dl with
  | none => .drop "unpack"
  | some (data, _) => .dec { type := 4, retry := retry, dataLen := dl, data := data }

theorem recvMsg_eq (req : Bytes) : recvMsg req =
    if req.length < 11 then .drop "incomplete header" else
    if hMagic req ≠ 6319435 then .drop "magic" else
    if hVer req ≠ 4 then .drop "version" else
    if (hLen req : Int) > MUNGE_MAXIMUM_REQ_LEN then .drop "length" else
    if ((req.drop 11).take (hLen req)).length < hLen req then .drop "incomplete body" else
    if hType req = 2 then recvEncBody (hRetry req) ((req.drop 11).take (hLen req))
    else if hType req = 4 then recvDecBody (hRetry req) ((req.drop 11).take (hLen req))
    else if hType req = 1 then recvHdrBody ((req.drop 11).take (hLen req))
    else .drop "type" := rfl

/-- the five tests `recvMsg` makes before it looks at the body -/
def HdrOk (req : Bytes) : Prop :=
  11 ≤ req.length ∧ hMagic req = 6319435 ∧ hVer req = 4 ∧ ¬ (hLen req : Int) > MUNGE_MAXIMUM_REQ_LEN ∧
  ((req.drop 11).take (hLen req)).length = hLen req

theorem recvMsg_of_hdrOk {req : Bytes} (h : HdrOk req) : recvMsg req =
    if hType req = 2 then recvEncBody (hRetry req) ((req.drop 11).take (hLen req))
    else if hType req = 4 then recvDecBody (hRetry req) ((req.drop 11).take (hLen req))
    else if hType req = 1 then recvHdrBody ((req.drop 11).take (hLen req))
    else .drop "type" := by
  obtain ⟨h1, h2, h3, h4, h5⟩ := h
  rw [recvMsg_eq, if_neg (by omega), if_neg (fun h => h h2), if_neg (fun h => h h3), if_neg h4, if_neg (by omega)]

theorem recvMsg_of_not_hdrOk {req : Bytes} (h : ¬ HdrOk req) : ∃ w, recvMsg req = .drop w := by
  rw [recvMsg_eq]
  iterate 5 refine iteInduction (motive := fun x => ∃ w, x = Recv.drop w) (fun _ => ⟨_, rfl⟩) fun _ => ?_
  rename_i h1 h2 h3 h4 h5
  have := List.length_take_le (hLen req) (req.drop 11)
  exact absurd ⟨by omega, Decidable.not_not.mp h2, Decidable.not_not.mp h3, h4, by omega⟩ h

theorem recvMsg_too_long (req : Bytes) (h : 11 ≤ req.length) (hl : (hLen req : Int) > MUNGE_MAXIMUM_REQ_LEN) :
    recvMsg req = .drop (if hMagic req ≠ 6319435 then "magic" else if hVer req ≠ 4 then "version" else "length") := by
  rw [recvMsg_eq, if_neg (by omega), if_pos hl, apply_ite Recv.drop, apply_ite Recv.drop]

theorem hfields_take (req : Bytes) :
    hMagic (req.take 11) = hMagic req ∧ hVer (req.take 11) = hVer req ∧ hType (req.take 11) = hType req ∧
    hRetry (req.take 11) = hRetry req ∧ hLen (req.take 11) = hLen req := by
  simp [hMagic, hVer, hType, hRetry, hLen, List.take_take, List.getD_eq_getElem?_getD, List.drop_take]

theorem recvMsg_too_long_append (hdr body : Bytes) (h : hdr.length = 11) (hl : (hLen hdr : Int) > MUNGE_MAXIMUM_REQ_LEN) :
    recvMsg (hdr ++ body) = .drop (if hMagic hdr ≠ 6319435 then "magic" else if hVer hdr ≠ 4 then "version" else "length") := by
  obtain ⟨e1, e2, _, _, e3⟩ := hfields_take (hdr ++ body)
  rw [List.take_left' h] at e1 e2 e3
  rw [recvMsg_too_long _ (by rw [List.length_append]; omega) (by rw [← e3]; exact hl), ← e1, ← e2]

theorem rsp_wellformed (t retry : Nat) (body : Bytes)
    (hfit : (hdrBytes t retry body.length ++ body).length < 4294967296 + 11) :
    11 ≤ (hdrBytes t retry body.length ++ body).length ∧
    (hdrBytes t retry body.length ++ body).take 5 = [0, 96, 109, 75, 4] ∧
    (hdrBytes t retry body.length ++ body).getD 5 0 = UInt8.ofNat t ∧
    rd32 (((hdrBytes t retry body.length ++ body).drop 7).take 4) = (hdrBytes t retry body.length ++ body).length - 11 := by
  have hl : (hdrBytes t retry body.length ++ body).length = 11 + body.length := by
    rw [List.length_append]; rfl
  obtain ⟨_, _, _, h5, _, h7, _⟩ := hdr_fields t retry body.length body (by omega)
  refine ⟨by omega, ?_, h5, by rw [h7, hl]; omega⟩
  unfold hdrBytes; rw [be32_magic]; rfl

/-- the credential-bearing fields of `m` are all at their "nothing" value (`C09.Sanitized` is this predicate) -/
def Blank (m : Msg) : Prop :=
  m.cipher = 0 ∧ m.mac = 0 ∧ m.zip = 0 ∧ m.realmLen = 0 ∧ m.realm = [] ∧ m.ttl = 0 ∧ m.addrLen = 0 ∧
  m.time0 = 0 ∧ m.time1 = 0 ∧ m.credUid = UID_ANY ∧ m.credGid = GID_ANY ∧ m.authUid = UID_ANY ∧
  m.authGid = GID_ANY ∧ m.dataLen = 0 ∧ m.data = []

theorem reset_blank (m : Msg) : Blank (reset m) :=
  ⟨rfl, rfl, rfl, rfl, rfl, rfl, rfl, rfl, rfl, rfl, rfl, rfl, rfl, rfl, rfl⟩

/-- the reply to a blank message is a function of (retry, code, text) alone -/
theorem decRsp_of_blank (m : Msg) (h : Blank m) :
    decRsp m = decRsp { (reset {}) with retry := m.retry, errorNum := m.errorNum, errorStr := m.errorStr } := by
  obtain ⟨h1, h2, h3, h4, h5, h6, h7, h8, h9, h10, h11, h12, h13, h14, h15⟩ := h
  unfold decRsp errWire
  simp only [h1, h2, h3, h4, h5, h6, h7, h8, h9, h10, h11, h12, h13, h14, h15, reset, List.take_zero]

end Munge.Cred
