import Munge.Model.Hkdf
import Munge.Lemmas.Kernel
/-
Lemmas for C20: the HKDF expand loop against RFC 5869 (`Munge.Spec`, `Munge.Hkdf`); what `mungekey` accepts and writes
(`Munge.Mungekey`: `parseBits_eq`, `createKey_eq`); the read loop of `create_subkeys`, which under the streaming law
digests the whole file however `read` cut it up (`Munge.Subkeys`: `readLoop_reads`, `createSubkeys_eval`).

A lemma about a definition of `Munge.Gen.Hkdf` states, under the ranges the C types give, what the generated expression,
guard or list denotes.  A semantic edit of the C source changes the generated definition and makes the corresponding
lemma (hence the property theorems) fail.
-/
namespace Munge.Spec
open Munge.Hkdf

theorem hkdfT_length (mac : Mac) (hashLen : Nat) (hlen : ∀ k m, (mac k m).length = hashLen) (prk info : Bytes)
    (i : Nat) : (hkdfT mac prk info (i + 1)).length = hashLen := by
  simp [hkdfT, hlen]

/-- `T(i+1) | T(i+2) | … | T(i+n)` -/
def blocks (mac : Mac) (prk info : Bytes) (i : Nat) : Nat → Bytes
  | 0 => []
  | n + 1 => hkdfT mac prk info (i + 1) ++ blocks mac prk info (i + 1) n

theorem blocks_range (mac : Mac) (prk info : Bytes) (i n : Nat) :
    ((List.range n).map fun j => hkdfT mac prk info (i + j + 1)).flatten = blocks mac prk info i n := by
  induction n generalizing i with
  | zero => rfl
  | succ n ih =>
    simp only [List.range_succ_eq_map, List.map_cons, List.flatten_cons, List.map_map, blocks, ← ih (i + 1),
      Function.comp_def, Nat.add_right_comm i 1, Nat.succ_eq_add_one, ← Nat.add_assoc]

theorem blocks_length (mac : Mac) (hashLen : Nat) (hlen : ∀ k m, (mac k m).length = hashLen) (prk info : Bytes)
    (i n : Nat) : (blocks mac prk info i n).length = n * hashLen := by
  induction n generalizing i with
  | zero => simp [blocks]
  | succ n ih => simp [blocks, ih, hkdfT_length mac hashLen hlen, Nat.add_mul]; omega

theorem ceil_mul_ge (L h : Nat) (hpos : 0 < h) : L ≤ (L + h - 1) / h * h := by
  have := Nat.lt_div_mul_add (a := L + h - 1) hpos
  omega

theorem hkdfExpand_eq_blocks (mac : Mac) (hashLen : Nat) (prk info : Bytes) (L : Nat) :
    hkdfExpand mac hashLen prk info L = (blocks mac prk info 0 ((L + hashLen - 1) / hashLen)).take L := by
  simp only [hkdfExpand, ← blocks_range, Nat.zero_add]

theorem rfc5869_length (mac : Mac) (hashLen : Nat) (hpos : 0 < hashLen) (hlen : ∀ k m, (mac k m).length = hashLen)
    (salt : Option Bytes) (ikm info : Bytes) (L : Nat) : (rfc5869 mac hashLen salt ikm info L).length = L := by
  unfold rfc5869
  rw [hkdfExpand_eq_blocks, List.length_take, blocks_length mac hashLen hlen]
  have := ceil_mul_ge L hashLen hpos
  omega

end Munge.Spec

namespace Munge.Hkdf
open Munge.C Munge.Gen.Hkdf Munge.Spec

theorem effSalt_eq (hashLen : Nat) (salt : Option Bytes) :
    effSalt hashLen salt = salt.getD (List.replicate hashLen 0) := by
  cases salt <;> simp [effSalt, defaultSaltLen, defaultSaltByte]

theorem extract_eq (mac : Mac) (salt ikm info : Bytes) : extract mac salt ikm info = mac salt ikm := by
  simp [extract, srcBytes, feedBytes, extractKey, extractMsg]

theorem fit_eq (n : Nat) (b : Bytes) (h : b.length = n) : fit n b = b := by
  simp [fit, h]

theorem prkLen_toNat (hashLen : Nat) : (prkLen hashLen).toNat = hashLen := rfl

theorem roundInit_eq : roundInit = 0 := rfl

theorem roundNext_eq (i : Nat) (h : i < 255) : roundNext (i : Int) = ((i + 1 : Nat) : Int) := by
  unfold roundNext wrapU8; omega

theorem expandMore_iff (left : Nat) : expandMore (left : Int) ↔ 0 < left := by
  unfold expandMore; omega

theorem expandStop_iff (r : Nat) : expandStop (r : Int) ↔ r = 255 := by
  unfold expandStop; omega

theorem expandCopy_eq (h left : Nat) (hh : h ≤ 2147483647) :
    expandCopy (h : Int) (left : Int) = ((min h left : Nat) : Int) := by
  have e : wrapU64 (h : Int) = h := Int.emod_eq_of_lt (by omega) (by omega)
  unfold expandCopy
  rw [wrapS32_id (by omega) (by omega)] <;> omega

theorem round_msg (salt ikm info prk prev : Bytes) (r : Nat) (h1 : 1 ≤ r) :
    feedBytes salt ikm info prk prev (r : Int) (expandFeeds (r : Int) info.length) =
      (if r = 1 then [] else prev) ++ info ++ [UInt8.ofNat r] := by
  -- the two generated guards enter as arbitrary propositions with their meaning proved by arithmetic, so the lemma
  -- does not depend on how the C source spells them
  have key (c1 c2 : Prop) [Decidable c1] [Decidable c2] (g1 : c1 ↔ r ≠ 1) (g2 : c2 ↔ info.length ≠ 0) :
      feedBytes salt ikm info prk prev (r : Int)
        ((if c1 then [Src.prev] else []) ++ (if c2 then [Src.info] else []) ++ [Src.counter]) =
      (if r = 1 then [] else prev) ++ info ++ [UInt8.ofNat r] := by
    by_cases hr : r = 1 <;> by_cases hi : info = [] <;> simp [feedBytes, srcBytes, g1, g2, hr, hi]
  exact key _ _ (by omega) (by omega)

theorem round_key (salt ikm info prk prev : Bytes) (r : Int) :
    srcBytes salt ikm info prk prev r expandKey = prk := rfl

/-- the loop invariant: entered with `round = i` and the previous block in `okm` (irrelevant when `i = 0`), the loop
    emits the first `left` bytes of `T(i+1) | T(i+2) | …` -/
theorem expandLoop_spec (mac : Mac) (hashLen : Nat) (hpos : 0 < hashLen) (hmax : hashLen ≤ 2147483647)
    (hlen : ∀ k m, (mac k m).length = hashLen) (salt ikm info prk : Bytes) :
    ∀ (fuel i : Nat) (okm : Bytes) (left N : Nat),
      i < 255 → left ≤ fuel → left ≤ (255 - i) * hashLen → left ≤ N * hashLen →
      (i ≠ 0 → okm = hkdfT mac prk info i) →
      expandLoop mac salt ikm info prk fuel (i : Int) okm (left : Int) = (blocks mac prk info i N).take left := by
  intro fuel
  induction fuel with
  | zero =>
    intro i okm left N _ hf _ _ _
    obtain rfl : left = 0 := by omega
    simp [expandLoop]
  | succ fuel ih =>
    intro i okm left N hi hf hcap hN hokm
    by_cases h0 : left = 0
    · rw [h0, expandLoop, if_neg (mt (expandMore_iff 0).1 (Nat.lt_irrefl 0)), List.take_zero]
    rcases N with _ | N
    · omega
    have hmore : expandMore (left : Int) := (expandMore_iff left).2 (by omega)
    have hprev : (if i + 1 = 1 then [] else okm) = hkdfT mac prk info i := by
      by_cases hi0 : i = 0
      · subst hi0; rfl
      · rw [if_neg (by omega), hokm hi0]
    have hT : mac prk (hkdfT mac prk info i ++ info ++ [UInt8.ofNat (i + 1)]) = hkdfT mac prk info (i + 1) := rfl
    have hTlen := hkdfT_length mac hashLen hlen prk info i
    -- one round emits the first `min hashLen left` bytes of `T(i+1)` and leaves `left - hashLen` to go
    rw [expandLoop]
    simp only [hmore, if_true, roundNext_eq i hi, round_key, round_msg salt ikm info prk okm (i + 1) (by omega), hprev,
      hT, hTlen, expandCopy_eq hashLen left hmax, Int.toNat_natCast, expandStop_iff, blocks,
      show (left : Int) - ((min hashLen left : Nat) : Int) = ((left - hashLen : Nat) : Int) by omega]
    rw [List.take_append, List.take_eq_take_min (i := left), hTlen, Nat.min_comm]
    congr 1
    rw [Nat.add_mul] at hN
    split
    · -- round 255 was the last: nothing is left
      have : 255 - i = 1 := by omega
      rw [this] at hcap
      rw [show left - hashLen = 0 by omega, List.take_zero]
    · have : 255 - i = 255 - (i + 1) + 1 := by omega
      rw [this, Nat.add_mul] at hcap
      exact ih (i + 1) _ (left - hashLen) N (by omega) (by omega) (by omega) (by omega) (fun _ => rfl)
end Munge.Hkdf

namespace Munge.Mungekey
open Munge.C Munge.Gen.Hkdf Munge.Hkdf

theorem validates_iff (n : Int) : validates n = true ↔ 32 ≤ n ∧ n ≤ 1024 := by
  unfold validates
  kcases conf_validate
  all_goals simp
  all_goals omega

theorem bitsToBytes_eq (b : Int) (h0 : 0 ≤ b) (h1 : b ≤ 8192) : bitsToBytes (setIntValue b) = (b + 7) / 8 := by
  unfold bitsToBytes setIntValue cdiv
  rw [wrapS32_id (x := b) (by omega) (by omega), wrapS32_id (x := b + 7) (by omega) (by omega),
    Int.tdiv_eq_ediv_of_nonneg (by omega), wrapS32_id (by omega) (by omega)]

theorem parseBits_eq (b : Int) : parseBits b = if 256 ≤ b ∧ b ≤ 8192 then some ((b + 7) / 8) else none := by
  have hr : setIntRejects b bitsMin bitsMax ↔ ¬ (256 ≤ b ∧ b ≤ 8192) := by
    unfold setIntRejects bitsMin bitsMax; omega
  unfold parseBits
  by_cases h : 256 ≤ b ∧ b ≤ 8192
  · rw [if_neg (fun r => hr.mp r h), if_pos h, bitsToBytes_eq b (by omega) h.2]
  · rw [if_pos (hr.mpr h), if_neg h]

theorem maskMode_and (m u k : Nat) (h : m &&& k = 0) : maskMode m u &&& k = 0 := by
  -- `&&& k` distributes over the `^^^`, and both sides of it then contain `m &&& k`
  rw [maskMode, Nat.and_xor_distrib_right, Nat.and_assoc, Nat.and_comm u k, ← Nat.and_assoc, h, Nat.zero_and,
    Nat.xor_self]

@[simp] theorem FS.set_set (fs : FS) (p : String) (a b : Option File) : (fs.set p a).set p b = fs.set p b := by
  funext q; simp only [FS.set]; split <;> rfl

@[simp] theorem FS.set_same (fs : FS) (p : String) (a : Option File) : (fs.set p a) p = a := by simp [FS.set]

theorem FS.set_other (fs : FS) (p q : String) (a : Option File) (h : q ≠ p) : (fs.set p a) q = fs q := by
  simp [FS.set, h]

theorem createKey_eq (fs : FS) (path : String) (force : Bool) (umask : Nat) (n : Int) (secret : Bytes) :
    createKey fs path force umask n secret =
      if fs path = none ∨ force = true then
        (fs.set path (some { content := (fit (secretLen n).toNat secret).take (writeLen n).toNat,
                             mode := maskMode openMode umask }), true)
      else (fs, false) := by
  have hflags : hasFlag openFlags O_CREAT = true ∧ hasFlag openFlags O_EXCL = true := by decide
  have hnf : ∀ rv : Int, ¬ unlinkFatal rv ENOENT := by
    unfold unlinkFatal ENOENT; omega
  cases force <;> cases hp : fs path <;>
    simp [createKey, posixOpen, hflags, hnf, hp, forceUnlinks, effUmask, finalMode, permCalls, writeAt0]

end Munge.Mungekey

namespace Munge.Subkeys
open Munge.C Munge.Gen.Hkdf Munge.Hkdf

def StreamLaw {σ : Type} (d : Digest σ) : Prop := ∀ s a b, d.update (d.update s a) b = d.update s (a ++ b)

/-- digest state after the whole file went in, in whatever pieces -/
def fed {σ : Type} (d : Digest σ) (s : σ) (f : Bytes) : σ := if f = [] then s else d.update s f

theorem fed_nil {σ : Type} (d : Digest σ) (s : σ) : fed d s [] = s := if_pos rfl

theorem fed_of_ne_nil {σ : Type} (d : Digest σ) (s : σ) {f : Bytes} (h : f ≠ []) : fed d s f = d.update s f := if_neg h

theorem readLoop_reads {σ : Type} (d : Digest σ) (f : Bytes) (evs : List ReadEv) (hr : ReadsOf f evs) :
    ∀ (s : σ) (n : Int), ∃ s', readLoop d s n evs = some (s', n + f.length) ∧ (StreamLaw d → s' = fed d s f) := by
  induction hr with
  | eof e =>
    intro s n
    refine ⟨s, ?_, fun _ => (fed_nil d s).symm⟩
    simp [readLoop, readEof]
  | eintr _ ih =>
    intro s n
    obtain ⟨s', h1, h2⟩ := ih s n
    refine ⟨s', ?_, h2⟩
    have e1 : ¬ readEof (-1) EINTR := by unfold readEof; omega
    have e2 : readRetry (-1) EINTR := by unfold readRetry EINTR; omega
    simp [readLoop, e1, e2, h1]
  | @data f evs c e hc _ ih =>
    intro s n
    obtain ⟨s', h1, h2⟩ := ih (d.update s c) (n + c.length)
    have hpos : (0 : Int) < c.length := Int.natCast_pos.mpr (List.length_pos_iff.mpr hc)
    have e1 : ¬ readEof (c.length : Int) e := by unfold readEof; omega
    have e2 : ¬ readRetry (c.length : Int) e := by unfold readRetry; omega
    have e3 : ¬ readFail (c.length : Int) e := by unfold readFail; omega
    refine ⟨s', ?_, ?_⟩
    · simp only [readLoop, e1, e2, e3, if_false, h1, List.length_append]
      congr 2; omega
    · intro law
      rw [h2 law, fed_of_ne_nil d s (List.append_ne_nil_of_left_ne_nil hc f)]
      by_cases hf : f = []
      · rw [hf, fed_nil, List.append_nil]
      · rw [fed_of_ne_nil _ _ hf, law]

/-- `s'` is the digest state after the read loop; it depends on how `read` cut the file up, and only the streaming law
    makes it the state of the whole file.  `[49]`, `[50]` are the suffixes "1", "2".  Stated through `lookup`, so the
    order in which the code finalises the two subkeys does not matter. -/
theorem createSubkeys_eval {σ : Type} (d : Digest σ) (f : Bytes) (evs : List ReadEv) (hr : ReadsOf f evs) :
    ∃ s', (StreamLaw d → s' = fed d (d.init MAC_SHA1.toNat) f) ∧
      (f.length < 32 → createSubkeys d evs = none) ∧
      (¬ f.length < 32 → ∃ outs, createSubkeys d evs = some outs ∧
          outs.lookup "dek_key" = some (d.final (d.update s' [49])) ∧
          outs.lookup "mac_key" = some (d.final (d.update s' [50]))) := by
  obtain ⟨s', h1, h2⟩ := readLoop_reads d f evs hr (d.init MAC_SHA1.toNat) nTotalInit
  simp [MAC_SHA1, nTotalInit] at h1
  refine ⟨s', h2, fun hs => ?_, fun hs => ?_⟩
  · have hshort : keyTooShort (f.length : Int) := by unfold keyTooShort; omega
    simp [createSubkeys, subkeyProgram, runProg, step, St.put, St.get, nTotalInit, h1, hshort]
  · have hshort : ¬ keyTooShort (f.length : Int) := by unfold keyTooShort; omega
    simp [createSubkeys, subkeyProgram, runProg, step, St.put, St.get, List.lookup, List.filter, nTotalInit, h1, hshort]

theorem runProg_congr {σ : Type} (d : Digest σ) (e1 e2 : List ReadEv)
    (h : ∀ s n, readLoop d s n e1 = readLoop d s n e2) (prog : List SkOp) :
    ∀ st : St σ, runProg d e1 st prog = runProg d e2 st prog := by
  induction prog with
  | nil => intro st; rfl
  | cons op rest ih =>
    intro st
    have hstep : step d e1 st op = step d e2 st op := by
      cases op <;> simp [step, h]
    simp [runProg, hstep, ih]

theorem createSubkeys_congr {σ : Type} (d : Digest σ) (e1 e2 : List ReadEv)
    (h : ∀ s n, readLoop d s n e1 = readLoop d s n e2) : createSubkeys d e1 = createSubkeys d e2 := by
  simp [createSubkeys, runProg_congr d e1 e2 h]

end Munge.Subkeys

namespace Munge.Hkdf.Toy
open Munge.Hkdf (Bytes)

/-- the toy MAC the harness shares with the driver produces tags of the advertised length -/
theorem mac_length (n : Nat) (k m : Bytes) : (mac n k m).length = n := by
  unfold mac
  generalize absorb (macInit k) m = h
  induction n generalizing h with
  | zero => rfl
  | succ n ih => simp [squeeze, ih]

end Munge.Hkdf.Toy
