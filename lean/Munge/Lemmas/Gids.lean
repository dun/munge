import Munge.Model.Gids
import Munge.Lemmas.Kernel
/-
For C17.  The lemmas from `keyEq_iff` to `hup_eq`, and `addMember_eq`, characterise the generated fragments
(`Munge.Gen.Gids.*`) as plain case distinctions and closed forms; they are what breaks when the C source changes its
meaning.  Everything else is proved from those characterisations alone, but for the value of the generated bound
`max_inits`, which `scan_restart` needs below `INT_MAX`.
-/
namespace Munge.Gids
open Munge.C Munge.Gen.Gids

/-- `UID_SENTINEL`, the value `_gids_user_to_uid` treats as "no such user" -/
def SENT : Int := UID_SENTINEL

theorem keyEq_iff (a b : Int) : keyEq a b = true ↔ a = b := by
  simp only [keyEq, gid_head_cmp, apply_ite KOut.ret, beq_iff_eq]
  omega

theorem insertAt_eq (gid : Int) (l : List Int) :
    insertAt gid l = if l.head? = some gid then (0, l) else (1, gid :: l) := by
  cases l with
  | nil => simp [insertAt, insert_tail, KOut.written, P_NEW]
  | cons n r => by_cases h : n = gid <;> simp [insertAt, insert_tail, KOut.written, P_NODE, P_NEW, h]

theorem insertGid_nil (gid : Int) : insertGid gid [] = (1, [gid]) := by
  rw [insertGid, insertAt_eq]; rfl

theorem insertGid_cons (gid n : Int) (rest : List Int) :
    insertGid gid (n :: rest) =
      if n < gid then ((insertGid gid rest).1, n :: (insertGid gid rest).2)
      else if n = gid then (0, n :: rest) else (1, gid :: n :: rest) := by
  simp [insertGid, insertAt_eq, insert_walk_skip, P_NODE]

theorem walkMember_cons (gid n : Int) (rest : List Int) (acc : Int) :
    walkMember gid (n :: rest) acc =
      if n = gid then 1 else if n < gid then walkMember gid rest acc else acc := by
  simp only [walkMember]
  -- the loop tests `n ≤ gid`; after the body's `n = gid` has failed that is `n < gid`
  kcases member_walk_body <;> simp [*, member_walk_cont, KOut.written, K_BREAK, P_NODE, Int.lt_iff_le_and_ne]

theorem member_init_zero : member_init = 0 := rfl

theorem userToUid_hit (O : PwOracle σ) (s : σ) (c : Cache) (user : String) (u : Int)
    (h : c.lookup user = some u) :
    userToUid O s c user = (s, c, if u = SENT then none else some u) := by
  simp only [userToUid, h, Option.isSome_some, Option.getD_some, ↓reduceIte]
  kcases user_to_uid with [Int.reduceEq] <;> simp [*, KOut.calls, KOut.written, SENT, UID_SENTINEL]

theorem userToUid_miss (O : PwOracle σ) (s : σ) (c : Cache) (user : String)
    (h : c.lookup user = none) :
    userToUid O s c user =
      match O.ask s user with
      | (.found u, s') => (s', uidAdd c user u, if u = SENT then none else some u)
      | (.fail e, s') => if e = ENOENT then (s', uidAdd c user SENT, none) else (s', c, none) := by
  rcases hq : O.ask s user with ⟨u | e, s'⟩
  all_goals
    -- the model first runs the kernel without an answer, to see whether `xgetpwnam` is called at all
    simp only [userToUid, h, hq, Option.isSome_none, Option.getD_none, Bool.false_eq_true, ↓reduceIte,
      show (user_to_uid 0 0 0 0 0 1 0).calls "xgetpwnam" = true by decide]
    kcases user_to_uid with [Int.reduceEq] <;> simp [*, KOut.written, SENT, UID_SENTINEL, ENOENT]

theorem create_flags : create_ok_returns_map = true ∧ create_err_returns_null = true := ⟨rfl, rfl⟩

theorem scanBegin_eq (st : BSt σ) (h : -2147483649 ≤ st.inits ∧ st.inits < 2147483647) :
    scanBegin st = { st with inits := st.inits + 1 } := by
  simp [scanBegin, scan_begin, KOut.written, wrapS32_id (x := st.inits + 1) (by omega) (by omega)]

theorem scanItem_fail (O : PwOracle σ) (st : BSt σ) (e : Int) :
    scanItem O st (.fail e) =
      if e = ENOENT then .done (some st.map) st.pw
      else if e = EINTR then .cont st false
      else if e = ERANGE ∧ st.inits < max_inits then .cont (scanBegin { st with map := [] }) true
      else .done none st.pw := by
  simp only [scanItem]
  kcases scan_err <;> simp [*, K_BREAK, K_CONTINUE, K_RESTART, KOut.calls, ENOENT, EINTR, ERANGE, finishOk, finishErr,
    create_ok_returns_map, create_err_returns_null]

theorem scanItem_ent (O : PwOracle σ) (st : BSt σ) (gid : Int) (ms : List String) :
    scanItem O st (.ent gid ms) =
      match addMembers O st gid ms with
      | some st' => .cont st' false
      | none => .done none st.pw := by
  unfold scanItem
  rcases h : addMembers O st gid ms with _ | st' <;> simp [h, finishErr, create_err_returns_null]

theorem initBSt_eq (pw : σ) : initBSt pw = { pw := pw, cache := [], map := [], inits := 1 } := by
  unfold initBSt
  rw [scanBegin_eq _ (by simp [num_inits_init])]
  simp [num_inits_init]

/-- everything the model reads off the outcome `k` of one run of `_gids_map_update`; `new ≠ 0`: `_gids_map_create`
    returned a map; it scans unless the mtime check is on (`d > 0`), `stat` worked and the file is not newer than `t` -/
structure MapUpdateSpec (d t dc tc old new iv now srv mt nt : Int) (k : KOut) : Prop where
  create : k.calls "_gids_map_create" = decide ¬ (d > 0 ∧ srv ≥ 0 ∧ mt ≤ t)
  hash : k.written "gids.gid_hash" =
    if ¬ (d > 0 ∧ srv ≥ 0 ∧ mt ≤ t) then some (if new ≠ 0 then new else old) else none
  tLast : k.written "gids.t_last_update" =
    if ¬ (d > 0 ∧ srv ≥ 0 ∧ mt ≤ t) then some (if new ≠ 0 then now else tc) else none
  doStat : k.written "gids.do_group_stat" = some (if (d > 0 ∧ srv < 0) ∨ d < -1 then -1 else dc)
  timer : k.written "gids.timer" = some (if iv > 0 then nt else 0)
  destroy : k.events.filter (·.1 == "hash_destroy") =
    if ¬ (d > 0 ∧ srv ≥ 0 ∧ mt ≤ t) ∧ new ≠ 0 ∧ old ≠ 0 then [("hash_destroy", [old])] else []
  sched : k.events.filter (fun e => e.1 == "timer_cancel" || e.1 == "timer_set_relative") =
    if iv > 0 then [("timer_set_relative", [wrapS32 (iv * 1000)])] else []

theorem map_update_spec {d t dc tc old new iv now srv mt nt gh : Int} {k : KOut}
    (hk : k = map_update d t dc tc old new iv now srv mt nt gh) : MapUpdateSpec d t dc tc old new iv now srv mt nt k := by
  subst hk
  unfold map_update
  -- each observation is pushed into the leaves of the kernel and evaluated there once; branches that agree are
  -- merged, and what is left of it is a small decision tree over the kernel's linear tests
  constructor
  case' create => simp only [apply_ite (fun k : KOut => k.calls "_gids_map_create")]
  case' hash => simp only [apply_ite (fun k : KOut => k.written "gids.gid_hash")]
  case' tLast => simp only [apply_ite (fun k : KOut => k.written "gids.t_last_update")]
  case' doStat => simp only [apply_ite (fun k : KOut => k.written "gids.do_group_stat")]
  case' timer => simp only [apply_ite (fun k : KOut => k.written "gids.timer")]
  case' destroy => simp only [apply_ite (fun k : KOut => k.events.filter (·.1 == "hash_destroy"))]
  case' sched =>
    simp only [apply_ite (fun k : KOut => k.events.filter (fun e => e.1 == "timer_cancel" || e.1 == "timer_set_relative"))]
  all_goals
    simp only [KOut.calls, KOut.written, List.any, List.find?, List.filter, String.reduceBEq, Bool.or_false,
      Bool.or_true, Option.map, ite_self]
  -- that settles `sched`, whose branches all agree
  all_goals grind

/-- `_gids_map_update` skips the scan exactly when the check is on, `stat` worked and the file is not newer -/
theorem wantsBuild_iff (d t : Int) (sh : Shared) (env : UpdEnv) :
    wantsBuild d t sh env = true ↔ ¬ (d > 0 ∧ env.statrv ≥ 0 ∧ env.mtime ≤ t) := by
  simp only [wantsBuild, (map_update_spec (k := updKernel d t sh env none 0) rfl).create, decide_eq_true_eq]

/-- it swaps exactly when this run scanned and the scan returned a map; a failing `stat` turns the mtime check off (−1) -/
theorem commit_eq (d t : Int) (sh : Shared) (env : UpdEnv) (res : Option GidMap) (nt : Int) :
    commit d t sh env res nt =
      { installed := if wantsBuild d t sh env ∧ res.isSome then res else sh.installed
        tLast := if wantsBuild d t sh env ∧ res.isSome then env.now else sh.tLast
        doStat := if (d > 0 ∧ env.statrv < 0) ∨ d < -1 then -1 else sh.doStat
        interval := sh.interval
        timer := if sh.interval > 0 then nt else 0 } := by
  have h := map_update_spec (k := updKernel d t sh env res nt) rfl
  simp only [commit, h.hash, h.tLast, h.doStat, h.timer, wantsBuild_iff]
  by_cases hs : ¬ (d > 0 ∧ env.statrv ≥ 0 ∧ env.mtime ≤ t) <;> cases res <;> simp [hs, ptrOf, P_OLD, P_NEW]

/-- the only map `_gids_map_update` ever hands to `hash_destroy` is the one it has just unlinked -/
theorem destroyed_eq (d t : Int) (sh : Shared) (env : UpdEnv) (res : Option GidMap) :
    destroyed d t sh env res =
      if wantsBuild d t sh env ∧ res.isSome ∧ sh.installed.isSome then [P_OLD] else [] := by
  simp only [destroyed, (map_update_spec (k := updKernel d t sh env res 0) rfl).destroy, wantsBuild_iff]
  by_cases hs : ¬ (d > 0 ∧ env.statrv ≥ 0 ∧ env.mtime ≤ t) <;> cases res <;> cases sh.installed <;>
    simp [hs, ptrOf, P_OLD, P_NEW]

/-- SIGHUP re-enables a check that a failing `stat` had turned off, and touches nothing else but the timer -/
theorem hup_eq (sh : Shared) (nt : Int) :
    hup sh nt = { sh with timer := nt, doStat := if sh.doStat = 0 then 0 else 1 } := by
  unfold hup hupKernel gids_update
  by_cases h0 : sh.doStat = 0 <;> simp [KOut.written, apply_ite KOut.writes, h0]

/-- strictly increasing: "sorted in increasing order of GIDs without duplicates" -/
abbrev Sorted (l : List Int) : Prop := l.Pairwise (· < ·)

theorem insertGid_rc (gid : Int) (l : List Int) : (insertGid gid l).1 = 0 ∨ (insertGid gid l).1 = 1 := by
  induction l with
  | nil => simp [insertGid_nil]
  | cons n rest ih =>
    rw [insertGid_cons]
    by_cases h : n < gid
    · simp [h, ih]
    · by_cases h2 : n = gid <;> simp [h, h2]

theorem mem_insertGid (gid : Int) (l : List Int) (x : Int) : x ∈ (insertGid gid l).2 ↔ x = gid ∨ x ∈ l := by
  induction l with
  | nil => simp [insertGid_nil]
  | cons n rest ih =>
    rw [insertGid_cons]
    by_cases h : n < gid
    · simp only [h, if_true, List.mem_cons, ih, or_left_comm]
    · by_cases h2 : n = gid
      · subst h2; simp
      · simp [h, h2]

theorem sorted_insertGid (gid : Int) (l : List Int) (hs : Sorted l) : Sorted (insertGid gid l).2 := by
  induction l with
  | nil => simp [insertGid_nil]
  | cons n rest ih =>
    obtain ⟨h1, h2⟩ := List.pairwise_cons.mp hs
    rw [insertGid_cons]
    split
    · refine List.pairwise_cons.mpr ⟨fun x hx => ?_, ih h2⟩
      rcases (mem_insertGid gid rest x).mp hx with rfl | hx
      · assumption
      · exact h1 x hx
    · split
      · exact hs
      · exact List.pairwise_cons.mpr ⟨List.forall_mem_cons.mpr ⟨by omega, fun x hx => by have := h1 x hx; omega⟩, hs⟩

theorem walkMember_spec (gid : Int) (l : List Int) (hs : Sorted l) : walkMember gid l 0 ≠ 0 ↔ gid ∈ l := by
  induction l with
  | nil => simp [walkMember]
  | cons n rest ih =>
    have hs' := List.pairwise_cons.mp hs
    rw [walkMember_cons]
    by_cases h1 : n = gid
    · simp [h1]
    · by_cases h2 : n < gid
      · simp [h1, h2, ih hs'.2, Ne.symm h1]
      · -- the walk stops at a larger gid: the list is sorted, so the gid is not further on either
        simp only [h1, h2, if_false, List.mem_cons]
        refine ⟨fun h0 => absurd rfl h0, ?_⟩
        rintro (h | h)
        · exact absurd h.symm h1
        · have := hs'.1 gid h; omega

/-- `uid` has `gid` in its node list -/
def Mem (m : GidMap) (u g : Int) : Prop := ∃ l, findHead m u = some l ∧ g ∈ l
def AllSorted (m : GidMap) : Prop := ∀ e ∈ m, Sorted e.2

theorem findHead_nil (u : Int) : findHead [] u = none := rfl

theorem findHead_cons (e : Int × List Int) (r : GidMap) (u : Int) :
    findHead (e :: r) u = if e.1 = u then some e.2 else findHead r u := by
  by_cases h : e.1 = u <;> simp [findHead, keyEq_iff, h]

theorem findHead_setHead (m : GidMap) (u : Int) (l : List Int) (u' : Int) :
    findHead (setHead m u l) u' = if u = u' then (findHead m u).map (fun _ => l) else findHead m u' := by
  induction m with
  | nil => simp [setHead, findHead_nil]
  | cons e r ih => simp only [setHead, keyEq_iff]; grind [findHead_cons]

theorem findHead_append (m : GidMap) (u : Int) (l : List Int) (u' : Int) :
    findHead (m ++ [(u, l)]) u' = (findHead m u').or (if u = u' then some l else none) := by
  simp only [findHead, List.find?_append, List.find?_singleton, keyEq_iff, Option.map_or, apply_ite (Option.map _),
    Option.map_some, Option.map_none]

theorem allSorted_setHead (m : GidMap) (u : Int) (l : List Int) (hm : AllSorted m) (hl : Sorted l) :
    AllSorted (setHead m u l) := by
  induction m with
  | nil => exact hm
  | cons e r ih =>
    obtain ⟨he, hr⟩ := List.forall_mem_cons.mp hm
    simp only [setHead]
    split
    · exact List.forall_mem_cons.mpr ⟨hl, hr⟩
    · exact List.forall_mem_cons.mpr ⟨he, ih hr⟩

theorem findHead_sorted (m : GidMap) (u : Int) (l : List Int) (hm : AllSorted m) (h : findHead m u = some l) :
    Sorted l := by
  obtain ⟨e, he, rfl⟩ := Option.map_eq_some_iff.mp h
  exact hm e (List.mem_of_find?_eq_some he)

theorem gidAdd_rc (m : GidMap) (u g : Int) : (gidAdd m u g).1 = 0 ∨ (gidAdd m u g).1 = 1 := by
  unfold gidAdd
  cases findHead m u <;> simp [insertGid_rc]

theorem allSorted_gidAdd (m : GidMap) (u g : Int) (hm : AllSorted m) : AllSorted (gidAdd m u g).2 := by
  unfold gidAdd
  cases h : findHead m u with
  | none =>
    rw [insertGid_nil]
    exact List.forall_mem_append.mpr ⟨hm, List.forall_mem_singleton.mpr (List.pairwise_singleton ..)⟩
  | some l => exact allSorted_setHead m u _ hm (sorted_insertGid g l (findHead_sorted m u l hm h))

theorem mem_gidAdd (m : GidMap) (u g u' g' : Int) :
    Mem (gidAdd m u g).2 u' g' ↔ Mem m u' g' ∨ (u' = u ∧ g' = g) := by
  unfold gidAdd Mem
  by_cases h2 : u = u'
  · subst h2
    cases h : findHead m u <;> simp [findHead_append, findHead_setHead, h, mem_insertGid, or_comm]
  · cases findHead m u <;> simp [findHead_append, findHead_setHead, h2, Ne.symm h2]

theorem isMember_none (u g : Int) : isMember none u g = false := by
  simp [isMember, member_init_zero]

theorem isMember_some (m : GidMap) (u g : Int) (hm : AllSorted m) : isMember (some m) u g = true ↔ Mem m u g := by
  unfold isMember Mem
  cases h : findHead m u with
  | none => simp [h, member_init_zero]
  | some l => simp [h, member_init_zero, walkMember_spec g l (findHead_sorted m u l hm h)]

/-- what a user database says about a name: the uid, unless it is the sentinel -/
def resolve (p : String → PwRes) (n : String) : Option Int :=
  match p n with
  | .found u => if u = SENT then none else some u
  | .fail _ => none

theorem resolve_eq_some (p : String → PwRes) (n : String) (u : Int) :
    resolve p n = some u ↔ p n = .found u ∧ u ≠ SENT := by
  unfold resolve
  cases p n with
  | found v =>
    simp only [Option.ite_none_left_eq_some, PwRes.found.injEq, Option.some.injEq]
    exact ⟨fun ⟨h, e⟩ => ⟨e, e ▸ h⟩, fun ⟨e, h⟩ => ⟨e ▸ h, e⟩⟩
  | fail e => simp

/-- The map after `_gids_gid_add` of these (uid, gid) pairs, in this order.  A build is determined by the
    sequence of pairs it inserts, and a uid is a member of a gid in the map exactly when the pair occurs in it. -/
def ofPairs (ps : List (Int × Int)) (m : GidMap) : GidMap := ps.foldl (fun m q => (gidAdd m q.1 q.2).2) m

theorem ofPairs_append (ps qs : List (Int × Int)) (m : GidMap) :
    ofPairs (ps ++ qs) m = ofPairs qs (ofPairs ps m) := List.foldl_append ..

theorem mem_ofPairs (ps : List (Int × Int)) (m : GidMap) (u g : Int) :
    Mem (ofPairs ps m) u g ↔ Mem m u g ∨ (u, g) ∈ ps := by
  induction ps generalizing m with
  | nil => simp [ofPairs]
  | cons q qs ih => simp only [ofPairs, List.foldl_cons] at ih ⊢; simp [ih, mem_gidAdd, or_assoc, Prod.ext_iff]

theorem allSorted_ofPairs (ps : List (Int × Int)) (m : GidMap) (hm : AllSorted m) : AllSorted (ofPairs ps m) := by
  induction ps generalizing m with
  | nil => exact hm
  | cons q qs ih => exact ih _ (allSorted_gidAdd m q.1 q.2 hm)

theorem allSorted_nil : AllSorted [] := by intro e he; simp at he

theorem mem_nil (u g : Int) : ¬ Mem [] u g := by
  rintro ⟨l, h, _⟩; simp [findHead_nil] at h

/-- the pairs the member loop of one entry inserts when every lookup is answered as `p` says -/
def memberPairs (p : String → PwRes) (gid : Int) (ms : List String) : List (Int × Int) :=
  (ms.filterMap (resolve p)).map (·, gid)

theorem memberPairs_cons (p : String → PwRes) (gid : Int) (n : String) (ns : List String) :
    memberPairs p gid (n :: ns) = ((resolve p n).map (·, gid)).toList ++ memberPairs p gid ns := by
  unfold memberPairs
  cases h : resolve p n <;> simp [h]

/-- the pairs one clean scan of `g` inserts -/
def pairsOf (p : String → PwRes) (g : List GrEnt) : List (Int × Int) :=
  g.flatMap fun e => memberPairs p e.gid e.members

theorem mem_pairsOf (p : String → PwRes) (g : List GrEnt) (u gid : Int) :
    (u, gid) ∈ pairsOf p g ↔ ∃ e ∈ g, e.gid = gid ∧ ∃ n ∈ e.members, resolve p n = some u := by
  simp only [pairsOf, memberPairs, List.mem_flatMap, List.mem_map, List.mem_filterMap, Prod.mk.injEq]
  constructor
  · rintro ⟨e, he, _, ⟨n, hn, hr⟩, rfl, rfl⟩; exact ⟨e, he, rfl, n, hn, hr⟩
  · rintro ⟨e, he, rfl, n, hn, hr⟩; exact ⟨e, he, u, ⟨n, hn, hr⟩, rfl, rfl⟩

theorem isMember_ofPairs (ps : List (Int × Int)) (u g : Int) :
    isMember (some (ofPairs ps [])) u g = true ↔ (u, g) ∈ ps := by
  simp [isMember_some _ _ _ (allSorted_ofPairs ps [] allSorted_nil), mem_ofPairs, mem_nil]

/-- the cache of a build agrees with database `p` -/
def CacheOK (p : String → PwRes) (c : Cache) : Prop :=
  ∀ n u, c.lookup n = some u → p n = .found u ∨ (u = SENT ∧ p n = .fail ENOENT)

theorem cacheOK_nil (p : String → PwRes) : CacheOK p [] := by intro n u h; simp at h

theorem lookup_uidAdd (c : Cache) (n : String) (u : Int) (n' : String) (v : Int)
    (h : (uidAdd c n u).lookup n' = some v) : c.lookup n' = some v ∨ (n' = n ∧ v = u) := by
  unfold uidAdd at h
  split at h
  · exact Or.inl h
  · rw [List.lookup_append] at h
    cases hc : c.lookup n' with
    | some w => exact Or.inl (by simpa [hc] using h)
    | none => simp [hc, List.lookup] at h; grind

theorem cacheOK_uidAdd (p : String → PwRes) (c : Cache) (n : String) (u : Int) (hc : CacheOK p c)
    (hp : p n = .found u ∨ (u = SENT ∧ p n = .fail ENOENT)) : CacheOK p (uidAdd c n u) := by
  intro n' v h
  rcases lookup_uidAdd c n u n' v h with h1 | ⟨rfl, rfl⟩
  · exact hc n' v h1
  · exact hp

/-- the oracle is consistent with database `p`: every answer is what `p` says, or a lookup error (any errno but ENOENT) -/
def Cons (O : PwOracle σ) (p : String → PwRes) : Prop :=
  ∀ s n, (O.ask s n).1 = p n ∨ ∃ e, (O.ask s n).1 = .fail e ∧ e ≠ ENOENT

theorem Cons.const (p : String → PwRes) : Cons (constOracle p) p := fun _ _ => Or.inl rfl

/-- The cache is invisible: the result is what `p` says about the name, unless this very call failed, and then it is no
    uid. -/
theorem userToUid_spec (O : PwOracle σ) (p : String → PwRes) (hO : Cons O p) (s : σ) (c : Cache) (n : String)
    (hc : CacheOK p c) :
    CacheOK p (userToUid O s c n).2.1 ∧
      ((userToUid O s c n).2.2 = resolve p n ∨ ((userToUid O s c n).2.2 = none ∧ (O.ask s n).1 ≠ p n)) := by
  cases hl : c.lookup n with
  | some v =>
    rw [userToUid_hit _ _ _ _ v hl]
    refine ⟨hc, Or.inl ?_⟩
    rcases hc n v hl with h1 | ⟨rfl, h2⟩
    · simp [resolve, h1]
    · simp [resolve, h2]
  | none =>
    rw [userToUid_miss _ _ _ _ hl]
    rcases hq : O.ask s n with ⟨r, s'⟩
    have hcons := hO s n
    rw [hq] at hcons
    by_cases hr : r = p n
    · cases r with
      | found v => exact ⟨cacheOK_uidAdd p c n v hc (Or.inl hr.symm), Or.inl (by simp [resolve, ← hr])⟩
      | fail e =>
        by_cases he : e = ENOENT
        · subst he
          exact ⟨by simpa using cacheOK_uidAdd p c n SENT hc (Or.inr ⟨rfl, hr.symm⟩), Or.inl (by simp [resolve, ← hr])⟩
        · exact ⟨by simpa [he] using hc, Or.inl (by simp [resolve, ← hr, he])⟩
    · obtain ⟨e, rfl, he⟩ := hcons.resolve_left hr
      exact ⟨by simpa [he] using hc, Or.inr ⟨by simp [he], hr⟩⟩

/-- `_gids_gid_add` returns 0 or 1 in the model (only a failed allocation makes it negative), so the member-loop body
    never aborts the build -/
theorem addMember_eq (O : PwOracle σ) (st : BSt σ) (gid : Int) (user : String) :
    addMember O st gid user =
      match userToUid O st.pw st.cache user with
      | (s', c', none) => some { st with pw := s', cache := c' }
      | (s', c', some uid) => some { pw := s', cache := c', map := (gidAdd st.map uid gid).2, inits := st.inits } := by
  unfold addMember
  rcases userToUid O st.pw st.cache user with ⟨s', c', r⟩
  cases r with
  | none => simp [scan_member, KOut.calls, K_ERR]
  | some uid =>
    have h : ¬ (gidAdd st.map uid gid).1 < 0 := by rcases gidAdd_rc st.map uid gid with h | h <;> omega
    simp [scan_member, KOut.calls, K_ERR, h]

/-- the build has gone from `st` to `st'` by inserting the pairs `ps`: no scan was begun, and the cache still agrees
    with `p` -/
structure Grown (p : String → PwRes) (st st' : BSt σ) (ps : List (Int × Int)) : Prop where
  map : st'.map = ofPairs ps st.map
  inits : st'.inits = st.inits
  cache : CacheOK p st'.cache

theorem Grown.trans (h1 : Grown p st st1 ps1) (h2 : Grown p st1 st2 ps2) : Grown p st st2 (ps1 ++ ps2) :=
  ⟨by rw [h2.map, h1.map, ofPairs_append], h2.inits.trans h1.inits, h2.cache⟩

/-- The member loop of one entry never fails.  It inserts pairs `ps`, a sublist of those `p` lists for the entry (a lookup
    that fails this once drops its member) and all of them when the oracle answers exactly as `p`. -/
theorem addMembers_spec (O : PwOracle σ) (p : String → PwRes) (hO : Cons O p) (gid : Int) (ms : List String)
    (st : BSt σ) (hc : CacheOK p st.cache) :
    ∃ st' ps, addMembers O st gid ms = some st' ∧ Grown p st st' ps ∧ ps.Sublist (memberPairs p gid ms) ∧
      ((∀ s n, (O.ask s n).1 = p n) → ps = memberPairs p gid ms) := by
  induction ms generalizing st with
  | nil => exact ⟨st, [], rfl, ⟨rfl, rfl, hc⟩, List.Sublist.refl _, fun _ => rfl⟩
  | cons n ns ih =>
    obtain ⟨hc1, hr⟩ := userToUid_spec O p hO st.pw st.cache n hc
    rcases hu : userToUid O st.pw st.cache n with ⟨s1, c1, r⟩
    rw [hu] at hc1 hr
    simp only [addMembers, addMember_eq, hu, memberPairs_cons]
    cases r with
    | none =>
      obtain ⟨st', ps, h1, g, h5, h6⟩ := ih { st with pw := s1, cache := c1 } hc1
      refine ⟨st', ps, h1, ⟨g.map, g.inits, g.cache⟩, List.sublist_append_of_sublist_right h5, fun hE => ?_⟩
      rw [h6 hE, ← hr.resolve_right (fun h => h.2 (hE _ _))]; rfl
    | some u =>
      have hru : resolve p n = some u := (hr.resolve_right (fun h => by simp at h)).symm
      obtain ⟨st', ps, h1, g, h5, h6⟩ :=
        ih { pw := s1, cache := c1, map := (gidAdd st.map u gid).2, inits := st.inits } hc1
      refine ⟨st', (u, gid) :: ps, h1, ⟨g.map, g.inits, g.cache⟩, ?_, fun hE => ?_⟩
      · rw [hru]; exact h5.cons_cons _
      · rw [hru, h6 hE]; rfl

theorem scanLoop_nil (O : PwOracle σ) (st : BSt σ) : scanLoop O st [] = (some st.map, st.pw) := by
  simp [scanLoop, scanItem_fail]

/-- items that neither end nor restart the scan: entries and EINTR -/
def Benign (l : List GrItem) : Prop := ∀ it ∈ l, (∃ gid ms, it = GrItem.ent gid ms) ∨ it = GrItem.fail EINTR

/-- the entries among the `xgetgrent` results -/
def entsOf : List GrItem → List GrEnt
  | [] => []
  | .ent gid ms :: r => ⟨gid, ms⟩ :: entsOf r
  | .fail _ :: r => entsOf r

theorem entsOf_entItems (g : List GrEnt) : entsOf (entItems g) = g := by
  induction g with
  | nil => rfl
  | cons e es ih => simpa [entItems, entsOf] using ih

theorem benign_entItems (g : List GrEnt) : Benign (entItems g) := by
  intro it h
  obtain ⟨e, _, rfl⟩ := List.mem_map.mp h
  exact Or.inl ⟨_, _, rfl⟩

/-- A stretch `b` of entries and EINTRs is scanned through to `rest`; the map grows by pairs `ps`, which are those of a
    clean scan of `b` when the oracle answers exactly as `p`. -/
theorem scan_benign (O : PwOracle σ) (p : String → PwRes) (hO : Cons O p) (b rest : List GrItem) (st : BSt σ)
    (hb : Benign b) (hc : CacheOK p st.cache) :
    ∃ st' ps, scanLoop O st (b ++ rest) = scanLoop O st' rest ∧ Grown p st st' ps ∧
      ((∀ s n, (O.ask s n).1 = p n) → ps = pairsOf p (entsOf b)) := by
  induction b generalizing st with
  | nil => exact ⟨st, [], rfl, ⟨rfl, rfl, hc⟩, fun _ => rfl⟩
  | cons it b' ih =>
    obtain ⟨hit, hb'⟩ := List.forall_mem_cons.mp hb
    rcases hit with ⟨gid, ms, rfl⟩ | rfl
    · obtain ⟨st1, ps1, h1, g1, -, e1⟩ := addMembers_spec O p hO gid ms st hc
      obtain ⟨st2, ps2, h2, g2, e2⟩ := ih st1 hb' g1.cache
      refine ⟨st2, ps1 ++ ps2, ?_, g1.trans g2, fun hE => ?_⟩
      · simp only [List.cons_append, scanLoop, scanItem_ent, h1]; exact h2
      · rw [e1 hE, e2 hE]; simp [entsOf, pairsOf]
    · obtain ⟨st2, ps2, h2, g2, e2⟩ := ih st hb' hc
      refine ⟨st2, ps2, ?_, g2, e2⟩
      rw [List.cons_append, scanLoop, scanItem_fail, if_neg (by decide), if_pos rfl]; exact h2

theorem mapCreate_entItems (O : PwOracle σ) (p : String → PwRes) (hO : Cons O p) (pw : σ) (g : List GrEnt) :
    ∃ ps, (mapCreate O pw (entItems g)).1 = some (ofPairs ps []) ∧
      ((∀ s n, (O.ask s n).1 = p n) → ps = pairsOf p g) := by
  obtain ⟨st', ps, h, g, he⟩ := scan_benign O p hO (entItems g) [] (initBSt pw) (benign_entItems g)
    (by rw [initBSt_eq]; exact cacheOK_nil p)
  rw [List.append_nil, scanLoop_nil] at h
  refine ⟨ps, by rw [mapCreate, h, g.map, initBSt_eq], fun hE => ?_⟩
  rw [he hE, entsOf_entItems]

theorem build_eq (g : List GrEnt) (p : String → PwRes) : build g p = some (ofPairs (pairsOf p g) []) := by
  obtain ⟨ps, h, he⟩ := mapCreate_entItems (constOracle p) p (Cons.const p) () g
  rw [build, h, he (fun _ _ => rfl)]

/-- Whatever `xgetgrent` returns and whichever lookups fail: a build that succeeds returns the map of a sequence of pairs,
    each of which a clean scan of the entries would insert too. -/
theorem scanLoop_pairs (O : PwOracle σ) (p : String → PwRes) (hO : Cons O p) (items : List GrItem) (st : BSt σ)
    (ps0 : List (Int × Int)) (hc : CacheOK p st.cache) (hm : st.map = ofPairs ps0 []) (m : GidMap) (s' : σ)
    (h : scanLoop O st items = (some m, s')) :
    ∃ ps, m = ofPairs ps [] ∧ ps ⊆ ps0 ++ pairsOf p (entsOf items) := by
  induction items generalizing st ps0 with
  | nil => rw [scanLoop_nil] at h; cases h; exact ⟨ps0, hm, by simp⟩
  | cons it rest ih =>
    cases it with
    | ent gid ms =>
      obtain ⟨st1, ps1, h1, g1, s1, -⟩ := addMembers_spec O p hO gid ms st hc
      simp only [scanLoop, scanItem_ent, h1] at h
      obtain ⟨ps, hps, hs⟩ := ih st1 (ps0 ++ ps1) g1.cache (by rw [g1.map, hm, ofPairs_append]) h
      rw [List.append_assoc] at hs
      exact ⟨ps, hps, hs.trans ((List.Sublist.refl ps0).append (s1.append_right _)).subset⟩
    | fail e =>
      simp only [scanLoop, scanItem_fail] at h
      by_cases h1 : e = ENOENT
      · simp only [h1, if_true] at h; cases h; exact ⟨ps0, hm, by simp⟩
      · by_cases h2 : e = EINTR
        · simp only [h2, if_true] at h; exact ih st ps0 hc hm h
        · by_cases h3 : e = ERANGE ∧ st.inits < max_inits
          · -- a restart: the partial map is dropped, the cache is kept
            simp only [h3, if_true, and_self] at h
            obtain ⟨ps, hps, hs⟩ := ih _ [] (by simpa [scanBegin] using hc) (by simp [scanBegin, ofPairs]) h
            exact ⟨ps, hps, List.subset_append_of_subset_right _ hs⟩
          · simp [h1, h2, h3] at h

theorem mapCreate_pairs (O : PwOracle σ) (p : String → PwRes) (hO : Cons O p) (pw : σ) (items : List GrItem)
    (m : GidMap) (h : (mapCreate O pw items).1 = some m) :
    ∃ ps, m = ofPairs ps [] ∧ ps ⊆ pairsOf p (entsOf items) := by
  rcases hmc : mapCreate O pw items with ⟨r, s'⟩
  rw [hmc] at h; cases h
  rw [mapCreate, initBSt_eq] at hmc
  exact scanLoop_pairs O p hO items _ [] (cacheOK_nil p) rfl m s' hmc

/-- the `xgetgrent` results of scans that each end in ERANGE -/
def restartPrefix (pre : List (List GrItem)) : List GrItem :=
  (pre.map (· ++ [GrItem.fail ERANGE])).flatten

theorem scan_restart (O : PwOracle σ) (st : BSt σ) (rest : List GrItem) (h1 : 1 ≤ st.inits)
    (h2 : st.inits < max_inits) :
    scanLoop O st (.fail ERANGE :: rest) = scanLoop O { st with map := [], inits := st.inits + 1 } rest := by
  have : max_inits < 2147483647 := by decide
  rw [scanLoop, scanItem_fail, if_neg (by decide), if_neg (by decide), if_pos ⟨rfl, h2⟩,
    scanBegin_eq _ (by simp; omega)]

theorem restartPrefix_cons (b : List GrItem) (pre : List (List GrItem)) (fin : List GrItem) :
    restartPrefix (b :: pre) ++ fin = b ++ (GrItem.fail ERANGE :: (restartPrefix pre ++ fin)) := by
  simp [restartPrefix]

theorem scan_giveup (O : PwOracle σ) (st : BSt σ) (rest : List GrItem) (h : ¬ st.inits < max_inits) :
    (scanLoop O st (.fail ERANGE :: rest)).1 = none := by
  rw [scanLoop, scanItem_fail, if_neg (by decide), if_neg (by decide), if_neg (fun h' => h h'.2)]

/-- Scans that each end in ERANGE, while `max_inits` allows: the map is empty again, the cache is kept, and `inits` has
    counted them. -/
theorem scan_restartPrefix (O : PwOracle σ) (p : String → PwRes) (hO : Cons O p) (pre : List (List GrItem))
    (rest : List GrItem) (st : BSt σ) (hpre : ∀ b ∈ pre, Benign b) (hc : CacheOK p st.cache) (hm : st.map = [])
    (hi : 1 ≤ st.inits) (hlen : st.inits + pre.length ≤ max_inits) :
    ∃ st', scanLoop O st (restartPrefix pre ++ rest) = scanLoop O st' rest ∧
      CacheOK p st'.cache ∧ st'.map = [] ∧ st'.inits = st.inits + pre.length := by
  induction pre generalizing st with
  | nil => exact ⟨st, by simp [restartPrefix], hc, hm, by simp⟩
  | cons b pre' ih =>
    obtain ⟨hb, hpre'⟩ := List.forall_mem_cons.mp hpre
    obtain ⟨st1, _, h, g, -⟩ := scan_benign O p hO b
      (GrItem.fail ERANGE :: (restartPrefix pre' ++ rest)) st hb hc
    have hi1 := g.inits
    simp only [List.length_cons] at hlen
    obtain ⟨st', h', hc', hm', hi'⟩ := ih { st1 with map := [], inits := st1.inits + 1 }
      hpre' g.cache rfl (by simp; omega) (by simp; omega)
    refine ⟨st', ?_, hc', hm', by simp at hi'; simp; omega⟩
    rw [restartPrefix_cons, h, scan_restart _ _ _ (by omega) (by omega), h']

theorem restartPrefix_concat (pre : List (List GrItem)) (b rest : List GrItem) :
    restartPrefix (pre ++ [b]) ++ rest = restartPrefix pre ++ (b ++ GrItem.fail ERANGE :: rest) := by
  simp [restartPrefix]

/-- the private state of the refresh thread is on its way to the result of one whole `_gids_map_create` -/
def PhaseOK (O : PwOracle σ) : Phase σ → Prop
  | .idle => True
  | .sec1 _ _ => True
  | .building _ _ _ st todo => ∃ pw items, (scanLoop O st todo).1 = (mapCreate O pw items).1
  | .built _ _ _ res => res = none ∨ ∃ pw items, (mapCreate O pw items).1 = res

/-- is this step the second locked section of `_gids_map_update` (the swap)? -/
def isCommit (s : Sys σ) : Act σ → Bool
  | .upd => match s.phase with
    | .built .. => true
    | _ => false
  | _ => false

/-- A step of the refresh thread is either the swap (from `built`: `commit`, and the epoch counter goes up), or it changes
    nothing but the thread's own phase and the oracle's state, and keeps `PhaseOK`. -/
theorem sysStep_upd (O : PwOracle σ) (s : Sys σ) :
    (∃ d t env res, s.phase = .built d t env res ∧
      sysStep O s .upd = ({ s with sh := commit d t s.sh env res s.timerSeq, phase := .idle,
                                   commits := s.commits + 1, timerSeq := s.timerSeq + 1 }, none)) ∨
    (isCommit s .upd = false ∧ ∃ ph pw, sysStep O s .upd = ({ s with phase := ph, pw := pw }, none) ∧
      (PhaseOK O s.phase → PhaseOK O ph)) := by
  cases hp : s.phase with
  | built d t env res => exact Or.inl ⟨d, t, env, res, rfl, by simp [sysStep, hp]⟩
  | idle =>
    refine Or.inr ⟨by simp [isCommit, hp], ?_⟩
    simp only [sysStep, hp]
    exact ⟨_, _, rfl, fun _ => trivial⟩
  | sec1 d t =>
    refine Or.inr ⟨by simp [isCommit, hp], ?_⟩
    simp only [sysStep, hp]
    split
    · exact ⟨_, _, rfl, fun _ => ⟨s.pw, s.db, rfl⟩⟩
    · exact ⟨_, _, rfl, fun _ => Or.inl rfl⟩
  | building d t env st todo =>
    refine Or.inr ⟨by simp [isCommit, hp], ?_⟩
    -- `sysStep` and `scanLoop` make the same case distinction on the same `scanItem`
    cases todo <;> simp only [sysStep, hp, PhaseOK, scanLoop] <;> split
    · exact ⟨_, _, rfl, fun ⟨pw, items, hb⟩ => Or.inr ⟨pw, items, hb.symm⟩⟩
    · exact ⟨_, _, rfl, fun _ => Or.inl rfl⟩
    · exact ⟨_, _, rfl, fun ⟨pw, items, hb⟩ => Or.inr ⟨pw, items, hb.symm⟩⟩
    · exact ⟨_, _, rfl, fun h => h⟩

theorem step_upd_out (O : PwOracle σ) (s : Sys σ) : (sysStep O s .upd).2 = none := by
  rcases sysStep_upd O s with ⟨_, _, _, _, _, h⟩ | ⟨_, _, _, h, _⟩ <;> rw [h]

theorem step_noncommit (O : PwOracle σ) (s : Sys σ) (a : Act σ) (h : isCommit s a = false) :
    (sysStep O s a).1.sh.installed = s.sh.installed ∧ (sysStep O s a).1.commits = s.commits ∧
      (PhaseOK O s.phase → PhaseOK O (sysStep O s a).1.phase) := by
  cases a with
  | lookup u g => simp [sysStep]
  | hup => simp [sysStep, hup_eq]
  | setEnv env db pw => cases hp : s.phase <;> simp [sysStep, hp]
  | upd =>
    rcases sysStep_upd O s with ⟨_, _, _, _, hp, _⟩ | ⟨_, _, _, e, hok⟩
    · simp [isCommit, hp] at h
    · rw [e]; exact ⟨rfl, rfl, hok⟩

theorem step_commit (O : PwOracle σ) (s : Sys σ) (h : isCommit s .upd = true) (hok : PhaseOK O s.phase) :
    PhaseOK O (sysStep O s .upd).1.phase ∧ (sysStep O s .upd).1.commits = s.commits + 1 ∧
      ((sysStep O s .upd).1.sh.installed = s.sh.installed ∨
        ∃ pw items, (mapCreate O pw items).1 = (sysStep O s .upd).1.sh.installed ∧
          (sysStep O s .upd).1.sh.installed.isSome = true) := by
  rcases sysStep_upd O s with ⟨d, t, env, res, hp, e⟩ | ⟨hn, _⟩
  · rw [hp] at hok
    simp only [e, true_and, commit_eq]
    refine ⟨trivial, ?_⟩
    split
    next hsw =>
      rcases hok with h3 | ⟨pw, items, h3⟩
      · rw [h3] at hsw; simp at hsw
      · exact Or.inr ⟨pw, items, h3, hsw.2⟩
    next => exact Or.inl rfl
  · rw [hn] at h; cases h

theorem run_cons (O : PwOracle σ) (s : Sys σ) (a : Act σ) (rest : List (Act σ)) :
    run O s (a :: rest) = ((run O (sysStep O s a).1 rest).1,
      (match a with
        | .lookup u g => [⟨u, g, isMember s.sh.installed u g, s.commits⟩]
        | _ => []) ++ (run O (sysStep O s a).1 rest).2) := by
  cases a <;> simp [run, sysStep]

/-- in every interleaving, all lookups of one epoch (between two swaps) are answered from one and the same whole map,
    and the map of the next epoch is the previous one or the complete result of one `_gids_map_create` -/
theorem run_whole (O : PwOracle σ) (acts : List (Act σ)) (s : Sys σ) (hok : PhaseOK O s.phase) :
    ∃ Ms : Nat → Option GidMap,
      Ms s.commits = s.sh.installed ∧
      (∀ r ∈ (run O s acts).2, s.commits ≤ r.epoch ∧ r.ans = isMember (Ms r.epoch) r.uid r.gid) ∧
      (∀ k, s.commits ≤ k → Ms (k + 1) = Ms k ∨
        ∃ pw items, (mapCreate O pw items).1 = Ms (k + 1) ∧ (Ms (k + 1)).isSome = true) := by
  induction acts generalizing s with
  | nil => exact ⟨fun _ => s.sh.installed, rfl, fun r hr => by simp [run] at hr, fun k _ => Or.inl rfl⟩
  | cons a rest ih =>
    rw [run_cons]
    by_cases hcm : isCommit s a = true
    · -- the swap: the epoch that ends here keeps the map it had, the later ones are as found for the rest of the run
      obtain rfl : a = .upd := by cases a <;> simp [isCommit] at hcm ⊢
      obtain ⟨hok', c1, c2⟩ := step_commit O s hcm hok
      obtain ⟨Ms', m1, m2, m3⟩ := ih _ hok'
      rw [c1] at m1 m2 m3
      refine ⟨fun k => if k ≤ s.commits then s.sh.installed else Ms' k, if_pos (Nat.le_refl _), fun r hr => ?_,
        fun k hk => ?_⟩ <;> dsimp only
      · obtain ⟨r1, r2⟩ := m2 r (by simpa using hr)
        exact ⟨by omega, by rw [if_neg (by omega)]; exact r2⟩
      · by_cases hk2 : k = s.commits
        · rw [hk2, if_neg (by omega), if_pos (Nat.le_refl _), m1]; exact c2
        · rw [if_neg (by omega), if_neg (by omega)]; exact m3 k (by omega)
    · obtain ⟨n1, n2, hok'⟩ := step_noncommit O s a (by simpa using hcm)
      obtain ⟨Ms', m1, m2, m3⟩ := ih _ (hok' hok)
      rw [n2] at m1 m2 m3; rw [n1] at m1
      refine ⟨Ms', m1, fun r hr => ?_, m3⟩
      rcases List.mem_append.mp hr with h | h
      · cases a <;> simp at h
        subst h; exact ⟨Nat.le_refl _, by rw [m1]⟩
      · exact m2 r h
end Munge.Gids
