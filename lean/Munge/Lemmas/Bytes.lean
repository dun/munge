import Munge.Model.Cred
/-
Byte strings as the credential and wire models use them: big-endian words (`be32` / `rd32`), bounded reads at a cursor
(`byteAt`, `takeN`, `takeField`, `take32`) and their behaviour on a buffer that begins with what a packer wrote; the armor
constants as values, the length of `rndTake`.
-/
namespace Munge.Cred
open Munge.Gen.Dec

@[simp] theorem C.be32_length (n : Nat) : (be32 n).length = 4 := rfl

theorem rd32_be32 (n : Nat) (h : n < 4294967296) : rd32 (be32 n) = n := by
  simp only [be32, rd32, UInt8.toNat_ofNat', Nat.mod_mod]
  omega

theorem rd32_lt (b : Bytes) : rd32 b < 4294967296 := by
  unfold rd32
  split
  · rename_i a b c d
    have := a.toNat_lt; have := b.toNat_lt; have := c.toNat_lt; have := d.toNat_lt
    omega
  · omega

theorem take_be32_append (n : Nat) (x : Bytes) : (be32 n ++ x).take 4 = be32 n := List.take_left' rfl
theorem drop_be32_append (n : Nat) (x : Bytes) : (be32 n ++ x).drop 4 = x := List.drop_left' rfl

theorem drop_be32_add (n k : Nat) (x : Bytes) : (be32 n ++ x).drop (k + 4) = x.drop k := by
  rw [Nat.add_comm, ← List.drop_drop, drop_be32_append]

theorem be32_magic : be32 6319435 = [0, 96, 109, 75] := by decide

theorem prefixB_eq : prefixB = [77, 85, 78, 71, 69, 58] := by decide +kernel
theorem suffixB_eq : suffixB = [58] := by decide +kernel

theorem rndTake_length (rnd : Bytes) (pos n : Nat) : (rndTake rnd pos n).length = n := by
  unfold rndTake; split <;> simp

theorem byteAt_some {b : Bytes} {i : Nat} (h : i < b.length) : byteAt b i = some b[i] := by
  unfold byteAt; exact List.getElem?_eq_getElem h

theorem takeN_some {b : Bytes} {n : Nat} (h : n ≤ b.length) : takeN b n = some (b.take n, b.drop n) := by
  unfold takeN; rw [if_pos h]

theorem takeN_eq_some {b : Bytes} {n : Nat} {x r : Bytes} (h : takeN b n = some (x, r)) :
    n ≤ b.length ∧ x = b.take n ∧ r = b.drop n := by
  unfold takeN at h
  split at h
  · cases h; exact ⟨‹_›, rfl, rfl⟩
  · cases h

theorem takeN_append (a b : Bytes) (n : Nat) (h : a.length = n) : takeN (a ++ b) n = some (a, b) := by
  subst h
  rw [takeN_some (by simp), List.take_left' rfl, List.drop_left' rfl]

theorem takeField_eq (b : Bytes) (len : Nat) : takeField b len =
    if len < 2147483648 ∧ len ≤ b.length then some (b.take len, b.drop len) else none := by
  unfold takeField
  by_cases h1 : len ≥ 2147483648
  · rw [if_pos h1, if_neg (by omega)]
  · by_cases h2 : len > b.length
    · rw [if_neg h1, if_pos h2, if_neg (by omega)]
    · rw [if_neg h1, if_neg h2, if_pos (by omega)]

theorem takeField_append (a b : Bytes) (n : Nat) (h : a.length = n) (hn : n < 2147483648) :
    takeField (a ++ b) n = some (a, b) := by
  subst h
  rw [takeField_eq, if_pos ⟨hn, by simp⟩, List.take_left' rfl, List.drop_left' rfl]

theorem takeField_all (a : Bytes) (n : Nat) (h : a.length = n) (hn : n < 2147483648) : takeField a n = some (a, []) := by
  have := takeField_append a [] n h hn
  rwa [List.append_nil] at this

theorem take32_eq (b : Bytes) (w : String) :
    take32 b w = if 4 > b.length then .err (EMUNGE_BAD_CRED, w) else .ok (rd32 (b.take 4), b.drop 4) := by
  unfold take32
  split
  · rfl
  · rw [takeN_some (by omega)]

theorem take32_be32 (n : Nat) (h : n < 4294967296) (rest : Bytes) (w : String) :
    take32 (be32 n ++ rest) w = .ok (n, rest) := by
  rw [take32_eq, if_neg (by simp only [List.length_append, C.be32_length]; omega), take_be32_append, drop_be32_append,
    rd32_be32 n h]

theorem hdrBytes_length (t r len : Nat) : (hdrBytes t r len).length = 11 := rfl

/-- the fields of a packet `header ‖ b` whose header declares `len` body bytes, as `m_msg_recv` reads them -/
theorem hdr_fields (t r len : Nat) (b : Bytes) (hl : len < 4294967296) :
    (hdrBytes t r len ++ b).length = 11 + b.length ∧ rd32 ((hdrBytes t r len ++ b).take 4) = 6319435 ∧
    (hdrBytes t r len ++ b).getD 4 0 = 4 ∧ (hdrBytes t r len ++ b).getD 5 0 = UInt8.ofNat t ∧
    (hdrBytes t r len ++ b).getD 6 0 = UInt8.ofNat r ∧ rd32 (((hdrBytes t r len ++ b).drop 7).take 4) = len ∧
    (hdrBytes t r len ++ b).drop 11 = b := by
  have e : hdrBytes t r len ++ b =
      0 :: 96 :: 109 :: 75 :: 4 :: UInt8.ofNat t :: UInt8.ofNat r :: (be32 len ++ b) := by
    unfold hdrBytes; rw [be32_magic]; rfl
  rw [e]
  refine ⟨by simp only [List.length_cons, List.length_append, C.be32_length]; omega,
    (by show rd32 [0, 96, 109, 75] = 6319435; decide), rfl, rfl, rfl, ?_, ?_⟩
  · simp only [List.drop_succ_cons, List.drop_zero]
    rw [take_be32_append, rd32_be32 _ hl]
  · simp only [List.drop_succ_cons]
    exact drop_be32_append len b

end Munge.Cred
