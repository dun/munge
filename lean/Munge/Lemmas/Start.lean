import Munge.Model.Start
/-
For C15.  A program is judged by decidable conditions on its call sequence (`WF`, `Revalidates`, `StartsAlone`,
`StopsClean`); the invariants of the `Start` transition system hold for every program meeting them, and are proved from one
description of what any call does (`effect_spec`), not call by call; a process running
alone is followed by an abstract interpreter of single calls (`run_alone`).
-/
namespace Munge.Start
open Munge.Gen.Start (Name)

@[simp, grind =] theorem live_idle : Phase.idle.live = false := rfl
@[simp, grind =] theorem live_starting : Phase.starting.live = true := rfl
@[simp, grind =] theorem live_serving : Phase.serving.live = true := rfl
@[simp, grind =] theorem live_stopping : Phase.stopping.live = true := rfl
@[simp, grind =] theorem live_exited (b : Bool) : (Phase.exited b).live = false := rfl
@[simp, grind =] theorem live_crashed : Phase.crashed.live = false := rfl

/-- how one call changes the ghost flags (held, own): what `effect` does to them (`effect_flags`) -/
def flagStep (held own : Bool) (op : Op) (rest : List Op) : Bool × Bool :=
  match op with
  | .unlink .lock => (held, false)
  | .setlk => (true, !rest.contains .revalidate)
  | .revalidate => (held, held)
  | .closeLock => (false, false)
  | _ => (held, own)

/-- which calls may be made in which situation: the socket name, the listening socket and the lock-file name
    are touched only by a process past the lock step; during start-up (`st`) this also holds for the pid file, and the
    lock file is never unlinked there;
    the lock is taken once, on a freshly opened descriptor; no call creates the lock or socket name as a plain file;
    the mode the lock file is created with is the one `_lock_stat` insists on. -/
def allowed (P : Prog) (st held own : Bool) : Op → Bool
  | .unlink .lock => !st && own
  | .unlink .sock | .bind | .listen => own
  | .unlink .pid | .create .pid _ => !st || own
  | .create .lock _ | .create .sock _ => false
  | .openLock _ _ m => st && !held && !own && statOk P (some ⟨.reg, m⟩)
  | .setlk | .revalidate => st && !own
  | .closeLock => !own
  | _ => true

/-- every call of the sequence is `allowed` under the flags (held, own) the calls before it leave -/
def safe (P : Prog) (st : Bool) : Bool → Bool → List Op → Bool
  | _, _, [] => true
  | h, o, op :: rest =>
    allowed P st h o op && safe P st (flagStep h o op rest).1 (flagStep h o op rest).2 rest

/-- the flags (held, own) after the whole sequence -/
def endFlags : Bool → Bool → List Op → Bool × Bool
  | h, o, [] => (h, o)
  | h, o, op :: rest => endFlags (flagStep h o op rest).1 (flagStep h o op rest).2 rest

/-- every F_SETLK is followed by a re-validation -/
def revalOK : List Op → Bool
  | [] => true
  | .setlk :: rest => rest.contains .revalidate && revalOK rest
  | _ :: rest => revalOK rest

/-- the start-up sequence respects `allowed` and ends as owner; the shutdown sequence respects it from there -/
def WF (P : Prog) : Bool :=
  safe P true false false P.startup && (endFlags false false P.startup).2 &&
  safe P false (endFlags false false P.startup).1 true P.shutdown

/-- the program re-validates the locked descriptor against the name -/
def Revalidates (P : Prog) : Bool := revalOK P.startup

theorem revalOK_tail {op : Op} {rest : List Op} (h : revalOK (op :: rest) = true) : revalOK rest = true := by
  cases op <;> simp_all [revalOK]

/-- `rv`: the program is required to re-validate -/
def ProcOK (P : Prog) (rv : Bool) (pr : Proc) : Prop :=
  match pr.phase with
  | .starting => safe P true pr.held pr.own pr.todo = true ∧
      endFlags pr.held pr.own pr.todo = endFlags false false P.startup ∧ (rv = true → revalOK pr.todo = true)
  | .serving => (pr.held, pr.own) = endFlags false false P.startup
  | .stopping => safe P false pr.held pr.own pr.todo = true
  | _ => pr.held = false ∧ pr.own = false ∧ pr.lockFd = none

def ProcsOK (P : Prog) (rv : Bool) (s : State) : Prop := ∀ p, ProcOK P rv (s.procs p)

/-- case analysis on an operation, with the path name of unlink/create made concrete -/
macro "op_cases " op:ident " => " t:tacticSeq : tactic =>
  `(tactic| (cases $op:ident with
      | unlink n => cases n <;> ($t)
      | create n m => cases n <;> ($t)
      | _ => ($t)))

/-- case analysis on a successful `effect` -/
macro "eff_cases " op:ident he:ident " => " t:tacticSeq : tactic =>
  `(tactic| op_cases $op =>
      (simp only [effect] at $he:ident
       (repeat' split at $he:ident) <;>
        (try (simp only [Option.some.injEq, Prod.mk.injEq, reduceCtorEq] at $he:ident)) <;>
        (try (obtain ⟨e1, e2⟩ := $he:ident; subst e1 e2)) <;> ($t)))

/-- the inode a call puts under the name `n` when `n` does not exist -/
def creates (op : Op) (n : Name) : Option Inode :=
  match op with
  | .openLock c _ m => if c = true ∧ n = .lock then some ⟨.reg, m⟩ else none
  | .bind => if n = .sock then some ⟨.socket, 0o777⟩ else none
  | .create n' m => if n = n' then some ⟨.reg, m⟩ else none
  | _ => none

section
variable {P : Prog} {s s1 : State} {p : Pid} {pr pr1 : Proc} {op : Op} {rest : List Op}

theorem effect_flags (he : effect P s p pr op rest = some (s1, pr1)) :
    pr1.phase = pr.phase ∧ pr1.held = (flagStep pr.held pr.own op rest).1 ∧
    pr1.own = (flagStep pr.held pr.own op rest).2 ∧ s1.procs = s.procs := by
  eff_cases op he => simp_all [flagStep]

/-- what a successful call of `p` does, apart from the flags (`effect_flags`) -/
structure Effect (s : State) (p : Pid) (pr : Proc) (op : Op) (s1 : State) (pr1 : Proc) : Prop where
  /-- what it leaves alone: inodes below `next`, and what the other processes own.  (`listen` overwrites whoever listened on
      the inode: that nobody did is an invariant, not a property of the call.) -/
  frame : s.next ≤ s1.next ∧ (∀ i, i < s.next → s1.inode i = s.inode i) ∧
    (∀ i q, q ≠ p → (s1.lockOwner i = some q ↔ s.lockOwner i = some q)) ∧
    (∀ i q, q ≠ p → s1.listener i = some q → s.listener i = some q) ∧
    (op ≠ .listen → ∀ i q, q ≠ p → s.listener i = some q → s1.listener i = some q)
  /-- the name `n` is kept, unlinked, or created on the inode `s.next` -/
  names : ∀ n, (op ≠ .unlink n ∧ (s.names n ≠ none ∨ creates op n = none) ∧ s1.names n = s.names n) ∨
    (op = .unlink n ∧ s1.names n = none) ∨
    (s.names n = none ∧ s1.names n = some s.next ∧ s1.next = s.next + 1 ∧ creates op n ≠ none ∧
      s1.inode s.next = creates op n)
  /-- the caller's own record and what it owns: the lock descriptor, the lock, the socket, the bound inode, the listening
      socket, each with the one or two calls that set and reset it -/
  self : (((op ≠ .closeLock ∧ (∀ c e m, op ≠ .openLock c e m) ∧ pr1.lockFd = pr.lockFd) ∨
      (∃ c e m, op = .openLock c e m ∧ pr1.lockFd = s1.names .lock ∧ pr1.lockFd ≠ none) ∨
      (op = .closeLock ∧ pr1.lockFd = none)) ∧
    (∀ i, s1.lockOwner i = some p ↔ (s.lockOwner i = some p ∧ op ≠ .closeLock) ∨ (op = .setlk ∧ pr.lockFd = some i)) ∧
    (op = .setlk → pr.lockFd ≠ none) ∧ (op = .revalidate → s.names .lock = pr.lockFd ∧ pr.lockFd ≠ none)) ∧
    (pr1.hasSock = true ↔ op = .socket ∨ (pr.hasSock = true ∧ op ≠ .closeListen)) ∧
    ((op ≠ .bind ∧ op ≠ .closeListen ∧ pr1.bound = pr.bound) ∨
      (op = .bind ∧ pr1.bound = s1.names .sock ∧ pr1.bound ≠ none) ∨ (op = .closeListen ∧ pr1.bound = none)) ∧
    (∀ i, s1.listener i = some p ↔ (s.listener i = some p ∧ op ≠ .closeListen) ∨ (op = .listen ∧ pr.bound = some i))

theorem effect_spec (he : effect P s p pr op rest = some (s1, pr1)) : Effect s p pr op s1 pr1 := by
  -- not `eff_cases` (nor in `effect_eq_none`): that also splits on the path name of unlink / create, which only `flagStep`
  -- matches on; here the names stay symbolic, one goal per call and branch of `effect`
  simp only [effect] at he <;> (repeat' split at he) <;>
    obtain ⟨rfl, rfl⟩ := he <;> exact ⟨by grind [upd_apply], by grind [upd_apply, creates], by grind [upd_apply]⟩

/-- the only ways a call fails: `O_EXCL` on an existing lock file or no `O_CREAT` on a missing one, `_lock_stat` rejecting
    the file, the lock held by somebody else, the name no longer the locked file, the socket name in use or no socket, no
    bound socket to listen on -/
theorem effect_eq_none (he : effect P s p pr op rest = none) :
    (∃ c e m, op = .openLock c e m ∧ (s.names .lock = none → c = false) ∧ (s.names .lock ≠ none → e = true)) ∨
    (op = .fstatLock ∧ (pr.lockFd = none ∨ ∃ i, pr.lockFd = some i ∧ statOk P (s.inode i) = false)) ∨
    (op = .setlk ∧ (pr.lockFd = none ∨ ∃ i, pr.lockFd = some i ∧ s.lockOwner i ≠ none ∧ s.lockOwner i ≠ some p)) ∨
    (op = .revalidate ∧ (pr.lockFd = none ∨ s.names .lock ≠ pr.lockFd)) ∨
    (op = .bind ∧ (pr.hasSock = false ∨ s.names .sock ≠ none)) ∨ (op = .listen ∧ pr.bound = none) := by
  cases op <;> simp only [effect] at he <;> (repeat' split at he) <;> grind

end

theorem flagStep_held (h o : Bool) (op : Op) (rest : List Op) :
    (flagStep h o op rest).1 = true ↔ op = .setlk ∨ (h = true ∧ op ≠ .closeLock) := by
  op_cases op => simp [flagStep]

theorem flagStep_own (h o : Bool) (op : Op) (rest : List Op) :
    (flagStep h o op rest).2 = true ↔ (op = .setlk ∧ rest.contains .revalidate = false) ∨ (op = .revalidate ∧ h = true) ∨
      (o = true ∧ op ≠ .unlink .lock ∧ op ≠ .setlk ∧ op ≠ .revalidate ∧ op ≠ .closeLock) := by
  op_cases op => simp [flagStep]

theorem allowed_lock {P : Prog} {st h o : Bool} {op : Op} (hal : allowed P st h o op = true) :
    (op = .unlink .lock → st = false ∧ o = true) ∧ (op = .setlk ∨ op = .revalidate → st = true ∧ o = false) ∧
    (∀ c e m, op = .openLock c e m → h = false ∧ o = false) ∧
    (creates op .lock ≠ none → statOk P (creates op .lock) = true) := by
  op_cases op => simp_all [allowed, creates]

theorem allowed_names {P : Prog} {h : Bool} {op : Op} (hal : allowed P true h false op = true) :
    op ≠ .unlink .sock ∧ op ≠ .unlink .pid ∧ op ≠ .unlink .lock ∧ op ≠ .listen ∧
    creates op .sock = none ∧ creates op .pid = none := by
  op_cases op => simp_all [allowed, creates]

def setProc (s : State) (p : Pid) (pr : Proc) : State := { s with procs := upd s.procs p pr }

/-- The record after a call.  A stopping process stays stopping: its exit is the `kill` in `cont_eq`, and the state in
    between must satisfy every invariant. -/
def advance (pr : Proc) (rest : List Op) : Proc :=
  { pr with todo := rest, phase := if rest = [] ∧ pr.phase ≠ .stopping then .serving else pr.phase }

theorem cont_eq (s : State) (p : Pid) (pr : Proc) (rest : List Op) :
    cont s p pr rest =
      if rest = [] ∧ pr.phase = .stopping then kill s p (.exited true) else setProc s p (advance pr rest) := by
  simp only [cont, setProc, advance] <;> split <;> simp_all

theorem kill_setProc (s : State) (p : Pid) (pr : Proc) (ph : Phase) : kill (setProc s p pr) p ph = kill s p ph := by
  simp only [kill, setProc]
  congr 1
  funext x
  by_cases hx : x = p <;> simp [hx]

/-- the hypothesis of the invariants: `P` is well formed and, where re-validation is required (`rv`), does it -/
def WFr (P : Prog) (rv : Bool) : Prop := WF P = true ∧ (rv = true → Revalidates P = true)

theorem allowed_of_procOK {P : Prog} {rv : Bool} {pr : Proc} {op : Op} {rest : List Op} (h : ProcOK P rv pr)
    (htd : pr.todo = op :: rest) (hph : pr.phase = .starting ∨ pr.phase = .stopping) :
    allowed P (decide (pr.phase = .starting)) pr.held pr.own op = true := by
  rcases hph with hph | hph <;> simp_all [ProcOK, safe]

def Event.pid : Event → Pid
  | .start p | .exec p | .term p | .crash p => p

theorem step_preserves (Φ : State → Prop) (P : Prog) (s : State) (e : Event)
    (hkill : ∀ s ph, Φ s → ph.live = false → Φ (kill s e.pid ph))
    (hstart : (s.procs e.pid).phase = .idle → Φ (setProc s e.pid (advance { phase := .starting } P.startup)))
    (hterm : (s.procs e.pid).phase = .serving →
      Φ (setProc s e.pid (advance { (s.procs e.pid) with phase := .stopping } P.shutdown)))
    (hexec : ∀ op rest s1 pr1, e = .exec e.pid →
      ((s.procs e.pid).phase = .starting ∨ (s.procs e.pid).phase = .stopping) →
      (s.procs e.pid).todo = op :: rest → effect P s e.pid (s.procs e.pid) op rest = some (s1, pr1) →
      Φ (setProc s1 e.pid (advance pr1 rest)))
    (h : Φ s) : Φ (step P s e) := by
  -- a shutdown that completes is `hexec` followed by `hkill`
  have hcont : ∀ s pr rest, Φ (setProc s e.pid (advance pr rest)) → Φ (cont s e.pid pr rest) := fun s pr rest h' => by
    rw [cont_eq]
    split
    · rw [← kill_setProc s e.pid (advance pr rest)]; exact hkill _ _ h' rfl
    · exact h'
  cases e with
  | start p => simp only [step]; split; exact hcont _ _ _ (hstart ‹_›); exact h
  | term p => simp only [step]; split; exact hcont _ _ _ (hterm ‹_›); exact h
  | crash p => simp only [step]; split; exact hkill _ _ h rfl; exact h
  | exec p =>
    simp only [step]
    split
    · split
      · simp only [execOp]
        split
        · exact hcont _ _ _ (hexec _ _ _ _ rfl ‹_› ‹_› ‹_›)
        · exact hkill _ _ h rfl
      · exact h
    · exact h

theorem step_procs_other (P : Prog) (s : State) (e : Event) (q : Pid) (hq : q ≠ e.pid) :
    (step P s e).procs q = s.procs q :=
  step_preserves (fun s' => s'.procs q = s.procs q) P s e (fun s' ph h _ => by simp [kill, hq, h])
    (fun _ => by simp [setProc, hq]) (fun _ => by simp [setProc, hq])
    (fun op rest s1 pr1 _ _ _ he => by simp [setProc, hq, (effect_flags he).2.2.2]) rfl

theorem procOK_advance (P : Prog) (rv : Bool) (pr : Proc) (rest : List Op)
    (h1 : pr.phase = .starting → safe P true pr.held pr.own rest = true ∧
      endFlags pr.held pr.own rest = endFlags false false P.startup ∧ (rv = true → revalOK rest = true))
    (h2 : pr.phase = .stopping → safe P false pr.held pr.own rest = true)
    (hph : pr.phase = .starting ∨ pr.phase = .stopping) : ProcOK P rv (advance pr rest) := by
  rcases hph with hph | hph
  · cases rest <;> simpa [advance, ProcOK, hph, safe, endFlags, revalOK] using h1 hph
  · simpa [advance, ProcOK, hph] using h2 hph

theorem procsOK_step (P : Prog) (rv : Bool) (hwf : WFr P rv) (s : State) (e : Event) (h : ProcsOK P rv s) :
    ProcsOK P rv (step P s e) := by
  -- `WF` is `ProcOK` of a fresh start-up and, from the flags start-up ends with, of a shutdown; a call takes the head off
  -- `safe` / `revalOK` and moves the flags as `flagStep` does (`effect_flags`), which is how `safe` and `endFlags` recurse
  obtain ⟨w, w4⟩ := hwf
  simp only [WF, Bool.and_eq_true] at w
  obtain ⟨⟨w1, w2⟩, w3⟩ := w
  have hset : ∀ s' p pr, s'.procs = s.procs → ProcOK P rv pr → ProcsOK P rv (setProc s' p pr) := fun s' p pr h1 h2 q => by
    by_cases hq : q = p
    · simpa [setProc, hq] using h2
    · simpa [setProc, hq, h1] using h q
  refine step_preserves (ProcsOK P rv) P s e ?_ ?_ ?_ ?_ h <;> generalize e.pid = p
  · intro s ph h hph q
    by_cases hq : q = p
    · subst hq; cases ph <;> simp [kill, ProcOK] at hph ⊢
    · simpa [kill, hq] using h q
  · intro hi
    exact hset s p _ rfl (procOK_advance P rv _ _ (fun _ => ⟨w1, rfl, w4⟩) (fun hh => by simp at hh) (.inl rfl))
  · intro hi
    have hp := h p
    simp only [ProcOK, hi, Prod.ext_iff] at hp
    exact hset s p _ rfl (procOK_advance P rv _ _ (fun hh => by simp at hh) (fun _ => by simp [hp.1, hp.2, w2, w3]) (.inr rfl))
  · intro op rest s1 pr1 _ hph htd he
    obtain ⟨f1, f3, f4, f5⟩ := effect_flags he
    have hp := h p
    refine hset s1 p _ f5 (procOK_advance P rv _ _ (fun hs => ?_) (fun hs => ?_) (by rw [f1]; exact hph)) <;>
      rw [f1] at hs <;> simp only [ProcOK, hs, htd, safe, Bool.and_eq_true] at hp <;> rw [f3, f4]
    · exact ⟨hp.1.2, hp.2.1, fun hr => revalOK_tail (hp.2.2 hr)⟩
    · exact hp.2

/-- locks and listening sockets belong to live processes: `kill` releases them -/
def OwnersLive (s : State) : Prop :=
  (∀ i q, s.lockOwner i = some q → (s.procs q).phase.live = true) ∧
  (∀ i q, s.listener i = some q → (s.procs q).phase.live = true)

/-- the inode a call creates (`s.next`) is under no name yet -/
def Fresh (s : State) : Prop := ∀ n i, s.names n = some i → i < s.next

/-- the lock-file name refers to a file `_lock_stat` accepts -/
def LockMode (P : Prog) (s : State) : Prop := ∀ i, s.names .lock = some i → statOk P (s.inode i) = true

/-- a process that believes it holds the lock does hold it -/
def HeldLocks (s : State) : Prop :=
  ∀ p i, (s.procs p).held = true → (s.procs p).lockFd = some i → s.lockOwner i = some p

/-- a process past the lock step holds the lock on the inode the lock-file name refers to -/
def OwnNamed (s : State) : Prop :=
  ∀ p, (s.procs p).own = true → (s.procs p).held = true ∧ (s.procs p).lockFd ≠ none ∧ s.names .lock = (s.procs p).lockFd

/-- (only without re-validation, on quiet schedules) a starting process that has the lock file open has the named one -/
def PreNamed (s : State) : Prop :=
  ∀ q, (s.procs q).phase = .starting → (s.procs q).own = false → (s.procs q).lockFd ≠ none →
    s.names .lock = (s.procs q).lockFd

/-- a schedule step is *quiet* if, when it is an `unlink(lockfile)`, no other start-up has the lock file open
    without owning it yet -/
def Quiet (s : State) (e : Event) : Prop :=
  ∀ r, e = .exec r → (s.procs r).todo.head? = some (.unlink .lock) →
    ∀ q, q ≠ r → (s.procs q).phase = .starting → (s.procs q).own = false → (s.procs q).lockFd = none

/-- invariants of every reachable state, whatever the schedule -/
structure BaseInv (P : Prog) (rv : Bool) (s : State) : Prop where
  procs : ProcsOK P rv s
  live : OwnersLive s
  fresh : Fresh s
  mode : LockMode P s
  held : HeldLocks s

/-- … plus the ownership invariant, which needs re-validation (`rv`) or a quiet schedule -/
structure Inv (P : Prog) (rv : Bool) (s : State) : Prop extends BaseInv P rv s where
  own : OwnNamed s
  pre : rv = false → PreNamed s

theorem baseInv_init (P : Prog) (rv : Bool) : BaseInv P rv init where
  procs := fun p => by simp [init, ProcOK]
  live := by simp [OwnersLive, init]
  fresh := by simp [Fresh, init]
  mode := by simp [LockMode, init]
  held := by simp [HeldLocks, init]

theorem baseInv_step {P : Prog} {rv : Bool} (hwf : WFr P rv) {s : State} (e : Event) (h : BaseInv P rv s) :
    BaseInv P rv (step P s e) := by
  -- `step_preserves` takes one predicate: the four fields that `procsOK_step` does not cover, as a conjunction
  have h4 : OwnersLive s ∧ Fresh s ∧ LockMode P s ∧ HeldLocks s := ⟨h.live, h.fresh, h.mode, h.held⟩
  suffices h' : OwnersLive (step P s e) ∧ Fresh (step P s e) ∧ LockMode P (step P s e) ∧ HeldLocks (step P s e) from
    ⟨procsOK_step P rv hwf s e h.procs, h'.1, h'.2.1, h'.2.2.1, h'.2.2.2⟩
  refine step_preserves (fun s => OwnersLive s ∧ Fresh s ∧ LockMode P s ∧ HeldLocks s) P s e ?kill ?start ?term ?exec h4 <;>
    generalize e.pid = p
  case kill =>
    simp only [OwnersLive, Fresh, LockMode, HeldLocks, kill]
    grind [upd_apply]
  case start | term =>
    intro hi
    simp only [OwnersLive, Fresh, LockMode, HeldLocks, setProc, advance] at h4 ⊢
    grind [upd_apply]
  · intro op rest s1 pr1 _ hph htd he
    obtain ⟨-, -, hopen, hmode⟩ := allowed_lock (allowed_of_procOK (h.procs p) htd hph)
    obtain ⟨hph1, hh, -, hpr⟩ := effect_flags he
    obtain ⟨hnx, hin, hlk, hls, -⟩ := (effect_spec he).frame
    refine ⟨?live, fun n i hn => ?fresh, fun i hi => ?mode, fun q i => ?held⟩
    case live =>
      -- the caller is alive after its call; anybody else owned before it, and has the record it had
      have h' := h.live
      simp only [OwnersLive, setProc, advance] at h' ⊢
      grind [upd_apply]
    case fresh =>
      rcases (effect_spec he).names n with ⟨-, -, h1⟩ | ⟨-, h1⟩ | ⟨-, h1, h2, -⟩ <;> simp only [setProc, h1] at hn ⊢
      · exact Nat.lt_of_lt_of_le (h.fresh n i hn) hnx
      · cases hn
      · cases hn; rw [h2]; exact Nat.lt_succ_self _
    case mode =>
      simp only [setProc] at hi ⊢
      rcases (effect_spec he).names .lock with ⟨-, -, h1⟩ | ⟨-, h1⟩ | ⟨-, h1, -, h2, h3⟩ <;> rw [h1] at hi
      · rw [hin i (h.fresh _ _ hi)]; exact h.mode i hi
      · cases hi
      · cases hi; rw [h3]; exact hmode h2
    case held =>
      have := h.held q i
      by_cases hq : q = p
      · -- `held` is set by F_SETLK, which takes the lock on `lockFd`, and is kept until `closeLock`; a descriptor is
        -- opened only while `held` is false
        subst hq
        obtain ⟨⟨hfd, hown, -, -⟩, -⟩ := (effect_spec he).self
        simp only [setProc, advance, upd_same, hh, flagStep_held]
        grind
      · simp only [setProc, upd_other _ _ _ _ hq, hpr]
        exact fun a b => (hlk i q hq).2 (this a b)

theorem baseInv_run {P : Prog} {rv : Bool} (hwf : WFr P rv) (evs : List Event) {s : State}
    (h : BaseInv P rv s) : BaseInv P rv (run P s evs) := by
  induction evs generalizing s with
  | nil => exact h
  | cons e es ih => exact ih (baseInv_step hwf e h)

theorem own_unique {s : State} (h : OwnNamed s) (hl : HeldLocks s) {p q : Pid}
    (hp : (s.procs p).own = true) (hq : (s.procs q).own = true) : p = q := by
  obtain ⟨a1, a2, a3⟩ := h p hp
  obtain ⟨b1, -, b3⟩ := h q hq
  obtain ⟨i, hfd⟩ := Option.ne_none_iff_exists'.1 a2
  exact Option.some.inj ((hl p i a1 hfd).symm.trans (hl q i b1 (by rw [← b3, a3, hfd])))

theorem inv_init (P : Prog) (rv : Bool) : Inv P rv init where
  toBaseInv := baseInv_init P rv
  own := by simp [OwnNamed, init]
  pre := by simp [PreNamed, init]

theorem inv_step {P : Prog} {rv : Bool} (hwf : WFr P rv) {s : State} (e : Event) (h : Inv P rv s)
    (hq : rv = false → Quiet s e) : Inv P rv (step P s e) := by
  suffices h' : OwnNamed (step P s e) ∧ (rv = false → PreNamed (step P s e)) from
    ⟨baseInv_step hwf e h.toBaseInv, h'.1, h'.2⟩
  have h2 := And.intro h.own h.pre
  refine step_preserves (fun s => OwnNamed s ∧ (rv = false → PreNamed s)) P s e ?kill ?start ?term ?exec h2 <;>
    generalize e.pid = p
  case kill =>
    simp only [OwnNamed, PreNamed, kill]
    grind [upd_apply]
  case start | term =>
    intro hi
    simp only [OwnNamed, PreNamed, setProc, advance] at h2 ⊢
    grind [upd_apply]
  · intro op rest s1 pr1 hev hph htd he
    have hal := allowed_of_procOK (h.procs p) htd hph
    have hrv : rv = true → (s.procs p).phase = .starting → revalOK (op :: rest) = true := fun h1 h2 => by
      have := h.procs p; simp only [ProcOK, h2, htd] at this; exact this.2.2 h1
    have huniq : ∀ w, (s.procs w).own = true → (s.procs p).own = true → w = p := fun w => own_unique h.own h.held
    have hq' : rv = false → op = .unlink .lock → _ := fun hr => by
      simpa only [htd, List.head?_cons, Option.some.injEq] using hq hr p hev
    have hnl := (effect_spec he).names .lock
    obtain ⟨⟨hfd, -, hsl, hrvl⟩, -⟩ := (effect_spec he).self
    obtain ⟨hph1, hh, ho, hpr⟩ := effect_flags he
    obtain ⟨a1, a2, a3, -⟩ := allowed_lock hal
    have hown := h.own; have hpre := h.pre
    simp only [PreNamed] at hpre
    refine ⟨fun q => ?_, fun hr q => ?_⟩
    · by_cases hqp : q = p
      · -- `own` is set by an F_SETLK that no re-validation follows (only if `rv = false`, and then `PreNamed` says that
        -- the descriptor is the named file) or by the re-validation, which has just compared the two; it is kept
        -- only by calls that keep the lock, the descriptor and the name
        subst hqp
        have := hown q
        simp only [setProc, advance, upd_same, hh, ho, flagStep_own, flagStep_held]
        grind [revalOK]
      · -- the name changes only if it did not exist (but it is what `q` has open), or if `p` unlinks it (then `p` is the
        -- owner, so `q` is not)
        simp only [setProc, upd_other _ _ _ _ hqp, hpr]
        have := hown q
        grind
    · have hq'' := hq' hr
      by_cases hqp : q = p
      · -- a descriptor opened by this call is the named file; one opened earlier was the named file before (`own` was
        -- false then too: only unlinking the lock file, which no start-up does, or closing it resets `own`), and the
        -- call keeps the name
        subst hqp
        have := flagStep_own (s.procs q).held (s.procs q).own op rest
        simp only [setProc, advance, upd_same]
        grind
      · -- `Quiet`: `p` does not unlink the lock file while `q` has it open
        simp only [setProc, upd_other _ _ _ _ hqp, hpr]
        grind

theorem singleOwner_of_inv {P : Prog} {rv : Bool} {s : State} (h : Inv P rv s) : SingleOwner s := by
  refine ⟨fun p q => own_unique h.own h.held, fun p hp => ?_⟩
  obtain ⟨a1, a2, a3⟩ := h.own p hp
  obtain ⟨i, hfd⟩ := Option.ne_none_iff_exists'.1 a2
  exact ⟨i, a3.trans hfd, hfd, h.held p i a1 hfd⟩

def QuietRun (P : Prog) : State → List Event → Prop
  | _, [] => True
  | s, e :: es => Quiet s e ∧ QuietRun P (step P s e) es

theorem inv_run {P : Prog} {rv : Bool} (hwf : WFr P rv) (evs : List Event) {s : State} (h : Inv P rv s)
    (hq : rv = false → QuietRun P s evs) : Inv P rv (run P s evs) := by
  induction evs generalizing s with
  | nil => exact h
  | cons e es ih => exact ih (inv_step hwf e h fun hr => (hq hr).1) fun hr => (hq hr).2

def Untouched (p : Pid) (s s' : State) : Prop :=
  s'.names .sock = s.names .sock ∧ s'.names .pid = s.names .pid ∧
  (∀ i, s.names .lock = some i → s'.names .lock = some i) ∧
  (∀ i o, o ≠ p → s.listener i = some o → s'.listener i = some o) ∧
  (∀ i o, o ≠ p → s.lockOwner i = some o → s'.lockOwner i = some o) ∧
  (∀ o, o ≠ p → s'.procs o = s.procs o)

theorem loser_harmless {P : Prog} {rv : Bool} {s : State} (h : ProcsOK P rv s) (p : Pid)
    (hst : (s.procs p).phase = .starting) (hown : (s.procs p).own = false) :
    Untouched p s (step P s (.exec p)) := by
  refine step_preserves (Untouched p s) P s (.exec p) ?_ (fun h => nomatch hst.symm.trans h)
    (fun h => nomatch hst.symm.trans h) ?_ (by simp [Untouched])
  · intro s' ph h' _
    simp only [Untouched, kill, Event.pid] at h' ⊢
    grind [upd_apply]
  · intro op rest s1 pr1 _ _ htd he
    have hal := allowed_of_procOK (h p) htd (.inl hst)
    rw [hst, hown] at hal
    obtain ⟨-, -, hlk, -, hli⟩ := (effect_spec he).frame
    obtain ⟨a1, a2, a3, a4, a5, a6⟩ := allowed_names hal
    have hpr := (effect_flags he).2.2.2
    simp only [setProc, Event.pid]
    refine ⟨?_, ?_, ?_, ?_, fun i o ho => (hlk i o ho).2, fun o ho => by simp [ho, hpr]⟩
    · have := (effect_spec he).names .sock; grind
    · have := (effect_spec he).names .pid; grind
    · have := (effect_spec he).names .lock; grind
    · exact fun i o ho => hli a4 i o ho

theorem dead_stays_dead (P : Prog) (p : Pid) (b : Bool) (evs : List Event) {s : State}
    (h : (s.procs p).phase = .exited b ∨ (s.procs p).phase = .crashed) : (run P s evs).procs p = s.procs p := by
  induction evs generalizing s with
  | nil => rfl
  | cons e es ih =>
    have hstep : (step P s e).procs p = s.procs p := by
      by_cases hq : p = e.pid
      · cases e <;> cases hq <;> simp only [Event.pid] at h ⊢ <;> rcases h with h | h <;> simp [step, h]
      · exact step_procs_other P s e p hq
    exact (ih (by rwa [hstep])).trans hstep

/-- run an abstract interpreter `f` of single calls over a sequence; `none`: some call may fail -/
def absRun {α : Type} (f : α → Op → List Op → Option α) (a : α) : List Op → Option α
  | [] => some a
  | op :: rest => (f a op rest).bind (absRun f · rest)

theorem run_alone {α : Type} {R : α → State → Prop} {f : α → Op → List Op → Option α} {P : Prog} {p : Pid}
    {ph ph' : Phase}
    (hstep : ∀ {a a' s op rest}, R a s → (s.procs p).phase = ph → (s.procs p).todo = op :: rest →
      f a op rest = some a' → R a' (step P s (.exec p)) ∧ ((step P s (.exec p)).procs p).todo = rest ∧
        ((step P s (.exec p)).procs p).phase = if rest = [] then ph' else ph)
    {todo : List Op} {a af : α} {s : State} (hr : R a s) (hph : (s.procs p).phase = ph) (htd : (s.procs p).todo = todo)
    (hne : todo ≠ []) (hrun : absRun f a todo = some af) :
    R af (run P s (List.replicate todo.length (.exec p))) ∧
    ((run P s (List.replicate todo.length (.exec p))).procs p).phase = ph' := by
  induction todo generalizing a s with
  | nil => exact absurd rfl hne
  | cons op rest ih =>
    simp only [absRun, Option.bind_eq_some_iff] at hrun
    obtain ⟨a', hs, hrun'⟩ := hrun
    obtain ⟨h1, h2, h3⟩ := hstep hr hph htd hs
    by_cases hrest : rest = []
    · subst hrest
      cases hrun'
      simpa [run] using ⟨h1, h3⟩
    · exact ih h1 (by simpa [hrest] using h3) h2 hrest hrun'

/-- abstract state of a process running alone -/
structure Solo where
  fd : Bool := false         -- lock file open, and it is the file the name refers to
  held : Bool := false
  own : Bool := false
  sockAbsent : Bool := false -- the socket name does not exist
  hasSock : Bool := false
  bound : Bool := false      -- bound to the inode the socket name refers to
  serving : Bool := false    -- … and listening on it

/-- the calls that cannot fail for a process running alone in abstract state `a`, whether or not the lock file exists -/
def soloOk (a : Solo) : Op → Bool
  | .openLock c e _ => c && !e
  | .fstatLock | .setlk | .revalidate => a.fd
  | .bind => a.hasSock && a.sockAbsent
  | .listen => a.bound
  | .create .sock _ | .create .lock _ => false
  | _ => true

def soloStep (a : Solo) (op : Op) (rest : List Op) : Option Solo :=
  if soloOk a op then some
    { fd := op matches .openLock .. || a.fd && op != .closeLock && op != .unlink .lock
      held := (flagStep a.held a.own op rest).1
      own := (flagStep a.held a.own op rest).2
      sockAbsent := op == .unlink .sock || a.sockAbsent && op != .bind
      hasSock := op == .socket || a.hasSock && op != .closeListen
      bound := op == .bind || a.bound && op != .unlink .sock && op != .closeListen
      serving := op == .listen && a.bound || a.serving && op != .unlink .sock && op != .closeListen }
  else none

/-- the start-up sequence, run alone from any leftover of the three names, ends listening on the socket name as
    the lock owner -/
def StartsAlone (P : Prog) : Bool :=
  (absRun soloStep {} P.startup).any (fun a => a.serving && a.own) && P.startup != []

/-- `a` describes `p` in `s`: `held` and `own` are `p`'s flags, each other flag that is set is true of `s`; nobody else
    is alive -/
structure SoloRel (a : Solo) (s : State) (p : Pid) : Prop where
  alone : ∀ q, q ≠ p → (s.procs q).phase.live = false
  fd : a.fd = true → (s.procs p).lockFd ≠ none ∧ s.names .lock = (s.procs p).lockFd
  held : (s.procs p).held = a.held
  own : (s.procs p).own = a.own
  sockAbsent : a.sockAbsent = true → s.names .sock = none
  hasSock : a.hasSock = true → (s.procs p).hasSock = true
  bound : a.bound = true → (s.procs p).bound ≠ none ∧ s.names .sock = (s.procs p).bound
  serving : a.serving = true → a.bound = true ∧ ∀ i, (s.procs p).bound = some i → s.listener i = some p

theorem soloOk_spec {a : Solo} {op : Op} (h : soloOk a op = true) :
    (∀ c e m, op = .openLock c e m → c = true ∧ e = false) ∧
    (op = .fstatLock ∨ op = .setlk ∨ op = .revalidate → a.fd = true) ∧
    (op = .bind → a.hasSock = true ∧ a.sockAbsent = true) ∧ (op = .listen → a.bound = true) ∧
    (op ≠ .bind → creates op .sock = none) := by
  op_cases op => simp_all [soloOk, creates]

theorem solo_step {P : Prog} {rv : Bool} (hwf : WFr P rv) {s : State} {p : Pid} {a a' : Solo} {op : Op}
    {rest : List Op} (h : BaseInv P rv s ∧ SoloRel a s p) (hph : (s.procs p).phase = .starting)
    (htd : (s.procs p).todo = op :: rest) (hs : soloStep a op rest = some a') :
    (BaseInv P rv (step P s (.exec p)) ∧ SoloRel a' (step P s (.exec p)) p) ∧
    ((step P s (.exec p)).procs p).todo = rest ∧
    ((step P s (.exec p)).procs p).phase = (if rest = [] then .serving else .starting) := by
  obtain ⟨hb, hr⟩ := h
  refine and_assoc.2 ⟨baseInv_step hwf _ hb, ?_⟩
  simp only [soloStep, Option.ite_none_right_eq_some, Option.some.injEq] at hs
  obtain ⟨hok, rfl⟩ := hs
  obtain ⟨k1, k2, k3, k4, k5⟩ := soloOk_spec hok
  obtain ⟨ral, rfd, rhe, row, rsa, rhs, rbd, rsv⟩ := hr
  simp only [step, hph, true_or, ↓reduceIte, htd, execOp]
  cases he : effect P s p (s.procs p) op rest with
  | none =>
    exfalso
    -- nobody else is alive, so nobody else holds a lock
    have hfree : ∀ i, s.lockOwner i = none ∨ s.lockOwner i = some p := fun i => by
      cases h : s.lockOwner i with
      | none => exact .inl rfl
      | some q => have := hb.live.1 i q h; have := ral q; grind
    have hmode := hb.mode
    simp only [LockMode] at hmode
    rcases effect_eq_none he with ⟨c, e, m, rfl, h1, h2⟩ | ⟨rfl, h1⟩ | ⟨rfl, h1⟩ | ⟨rfl, h1⟩ | ⟨rfl, h1⟩ | ⟨rfl, h1⟩ <;>
      grind
  | some x =>
    obtain ⟨s1, pr1⟩ := x
    obtain ⟨hph1, hf1, hf2, hpr⟩ := effect_flags he
    dsimp only
    rw [cont_eq, if_neg (by rw [hph1, hph]; simp)]
    obtain ⟨⟨hfd, -, -, hrv⟩, hsk, hbd, hli⟩ := (effect_spec he).self
    have hn1 := (effect_spec he).names .lock
    have hn2 := (effect_spec he).names .sock
    refine ⟨⟨fun q hq => ?_, ?_, ?_, ?_, ?_, ?_, ?_, ?_⟩, ?_⟩ <;>
      simp only [setProc, upd_same, advance, hph1, hph, and_true, ne_eq, reduceCtorEq, not_false_eq_true,
        Bool.or_eq_true, Bool.and_eq_true, beq_iff_eq, bne_iff_ne]
    · rw [upd_other _ _ _ _ hq, hpr]; exact ral q hq
    -- field by field: `Effect.self` and the two name clauses say of the real state what `soloStep` says of the abstract one
    all_goals grind

theorem restart_generic {P : Prog} {rv : Bool} (hwf : WFr P rv) (hsa : StartsAlone P = true) {s : State}
    (hb : BaseInv P rv s) (p : Pid) (hidle : (s.procs p).phase = .idle)
    (hdead : ∀ q, (s.procs q).phase.live = false) :
    let s' := run P s (.start p :: List.replicate P.startup.length (.exec p))
    (s'.procs p).phase = .serving ∧ serverOf s' = some p ∧ (s'.procs p).own = true := by
  simp only [StartsAlone, Bool.and_eq_true, Option.any_eq_true, bne_iff_ne] at hsa
  obtain ⟨⟨af, haf, hserv, hown⟩, hne⟩ := hsa
  have hst : step P s (.start p) = setProc s p { phase := .starting, todo := P.startup } := by
    simp [step, hidle, cont_eq, advance, hne]
  have hr : SoloRel {} (step P s (.start p)) p := by
    rw [hst]
    constructor
    · exact fun q hq => by simp [setProc, hq, hdead q]
    all_goals simp [setProc]
  obtain ⟨⟨-, h1⟩, h2⟩ := run_alone (solo_step hwf)
    ⟨baseInv_step hwf _ hb, hr⟩ (by rw [hst]; simp [setProc]) (by rw [hst]; simp [setProc]) hne haf
  simp only [run, List.foldl_cons] at h1 h2 ⊢
  refine ⟨h2, ?_, by rw [h1.own, hown]⟩
  obtain ⟨hbd, hli⟩ := h1.serving hserv
  have := h1.bound hbd
  generalize List.foldl (step P) _ _ = t at this hli
  grind [serverOf]

/-- what a shutdown running alone has achieved so far -/
structure StopAbs where
  sockGone : Bool := false
  lockGone : Bool := false
  pidGone : Bool := false
  seedThere : Bool := false

/-- the calls that cannot fail and re-create none of the socket, lock-file and pid-file names: the others have no place in
    a shutdown -/
def stopOk : Op → Bool
  | .unlink _ | .create .seed _ | .create .other _ | .closeListen | .closeLock | .socket => true
  | _ => false

theorem stopOk_creates {op : Op} (h : stopOk op = true) :
    creates op .sock = none ∧ creates op .lock = none ∧ creates op .pid = none := by
  op_cases op => simp_all [stopOk, creates]

def stopStep (a : StopAbs) (op : Op) (_ : List Op) : Option StopAbs :=
  if stopOk op then some
    { sockGone := a.sockGone || op == .unlink .sock
      lockGone := a.lockGone || op == .unlink .lock
      pidGone := a.pidGone || op == .unlink .pid
      seedThere := op matches .create .seed _ || a.seedThere && op != .unlink .seed }
  else none

/-- the shutdown sequence removes the socket, lock-file and pid-file names and leaves a seed file -/
def StopsClean (P : Prog) : Bool :=
  (absRun stopStep {} P.shutdown).any fun a => a.sockGone && a.lockGone && a.pidGone && a.seedThere

/-- every flag of `a` that is set is true of the names in `s` -/
structure StopRel (a : StopAbs) (s : State) : Prop where
  sock : a.sockGone = true → s.names .sock = none
  lock : a.lockGone = true → s.names .lock = none
  pid : a.pidGone = true → s.names .pid = none
  seed : a.seedThere = true → s.names .seed ≠ none

theorem stop_step {P : Prog} {s : State} {p : Pid} {a a' : StopAbs} {op : Op} {rest : List Op}
    (hr : StopRel a s) (hph : (s.procs p).phase = .stopping)
    (htd : (s.procs p).todo = op :: rest) (hs : stopStep a op rest = some a') :
    StopRel a' (step P s (.exec p)) ∧ ((step P s (.exec p)).procs p).todo = rest ∧
    ((step P s (.exec p)).procs p).phase = (if rest = [] then .exited true else .stopping) := by
  simp only [stopStep, Option.ite_none_right_eq_some, Option.some.injEq] at hs
  obtain ⟨hok, ha⟩ := hs
  simp only [step, hph, or_true, ↓reduceIte, htd, execOp]
  cases he : effect P s p (s.procs p) op rest with
  | none =>
    exfalso
    rcases effect_eq_none he with ⟨c, e, m, rfl, -⟩ | ⟨rfl, -⟩ | ⟨rfl, -⟩ | ⟨rfl, -⟩ | ⟨rfl, -⟩ | ⟨rfl, -⟩ <;> cases hok
  | some x =>
    obtain ⟨s1, pr1⟩ := x
    have hph1 := (effect_flags he).1
    have hnm := (effect_spec he).names
    have hcr := stopOk_creates hok
    have hnames : ∀ s', s'.names = s1.names → StopRel a' s' := fun s' hs' => by
      subst ha
      obtain ⟨r1, r2, r3, r4⟩ := hr
      refine ⟨?_, ?_, ?_, ?_⟩ <;> simp only [hs', Bool.or_eq_true, Bool.and_eq_true, beq_iff_eq, bne_iff_ne]
      · grind
      · grind
      · grind
      · grind [creates]
    dsimp only
    rw [cont_eq]
    split
    · rename_i h; exact ⟨hnames _ rfl, by simp [kill, h.1]⟩
    · rename_i h
      have : rest ≠ [] := fun e => h ⟨e, by rw [hph1, hph]⟩
      exact ⟨hnames _ rfl, by simp [setProc, advance, this, hph1, hph]⟩

theorem clean_stop_generic {P : Prog} (hsc : StopsClean P = true) (s : State) (p : Pid)
    (hserv : (s.procs p).phase = .serving) :
    let s' := run P s (.term p :: List.replicate P.shutdown.length (.exec p))
    s'.names .sock = none ∧ s'.names .lock = none ∧ s'.names .pid = none ∧ s'.names .seed ≠ none ∧
    (s'.procs p).phase = .exited true := by
  simp only [StopsClean, Option.any_eq_true, Bool.and_eq_true] at hsc
  obtain ⟨af, haf, ⟨⟨c1, c2⟩, c3⟩, c4⟩ := hsc
  have hne : P.shutdown ≠ [] := fun h => by rw [h] at haf; cases haf; cases c1
  have hst : step P s (.term p) = setProc s p { (s.procs p) with phase := .stopping, todo := P.shutdown } := by
    simp [step, hserv, cont_eq, advance, hne]
  obtain ⟨h1, h2⟩ := run_alone (P := P) (p := p) stop_step
    (s := step P s (.term p)) ⟨nofun, nofun, nofun, nofun⟩ (by rw [hst]; simp [setProc]) (by rw [hst]; simp [setProc]) hne haf
  simp only [run, List.foldl_cons] at h1 h2 ⊢
  exact ⟨h1.sock c1, h1.lock c2, h1.pid c3, h1.seed c4, h2⟩

/-- Everything the generic theorems ask of a program, checked on the extracted one and on its variant with a
    re-validation step.  One statement, so that `prog` (the inlining of the generated callee lists) is evaluated once. -/
theorem prog_meets_hypotheses :
    WF prog = true ∧ Revalidates prog = true ∧ StartsAlone prog = true ∧ StopsClean prog = true ∧
    WF (addReval prog) = true ∧ Revalidates (addReval prog) = true := by
  decide +kernel

theorem prog_wfr (rv : Bool) : WFr prog rv :=
  ⟨prog_meets_hypotheses.1, fun _ => prog_meets_hypotheses.2.1⟩

end Munge.Start
