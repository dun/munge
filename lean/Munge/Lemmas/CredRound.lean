import Munge.Lemmas.CredEnc
import Munge.Lemmas.CredDec
import Munge.Props.C19
import Munge.Props.C04
import Munge.Props.C06
/-
The round trip: the encoder emits exactly the credential `SpecV3.emit` prescribes for its fields (`encCred_spec`), and the
decoder accepts every such credential of well-formed fields and returns them (`decode_emit`).  This is where the
results about base64 (C19), the authorisation kernel (C04) and the validity window (C06) are put to use.  Namespace `B`
holds the round trip, here and (its encode side) in CredEnc; the name means nothing more.
-/
namespace Munge.Cred.B
open Munge.Gen.Dec Munge.C

theorem b64Char_eq (n : Nat) (h : n < 64) : SpecV3.b64Char n = C19.rfcChar n :=
  (by decide +kernel : ∀ i : Fin 64, SpecV3.b64Char i = C19.rfcChar i) ⟨n, h⟩

theorem base64_eq_rfc (x : Bytes) : SpecV3.base64 x = C19.rfcEncode x := by
  fun_induction SpecV3.base64 x with
  | case1 a b c rest n ih =>
    have := a.toNat_lt; have := b.toNat_lt; have := c.toNat_lt
    simp only [C19.rfcEncode, ih]
    rw [b64Char_eq _ (by omega), b64Char_eq _ (by omega), b64Char_eq _ (by omega), b64Char_eq _ (by omega)]
  | case2 a b n =>
    have := a.toNat_lt; have := b.toNat_lt
    simp only [C19.rfcEncode]
    rw [b64Char_eq _ (by omega), b64Char_eq _ (by omega), b64Char_eq _ (by omega)]
  | case3 a n =>
    have := a.toNat_lt
    simp only [C19.rfcEncode]
    rw [b64Char_eq _ (by omega), b64Char_eq _ (by omega)]
  | case4 => rfl

theorem encodeBlock_eq_base64 (x : Bytes) : Base64.encodeBlock x = SpecV3.base64 x := by
  rw [C19.encode_rfc4648, base64_eq_rfc]

theorem armor_rfc (o t i : Bytes) : Base64.encodeChunks [o, t, i] = SpecV3.base64 (o ++ t ++ i) := by
  rw [C19.chunking, encodeBlock_eq_base64]; simp

theorem lastIndexOf_append (b t : Bytes) (ch : UInt8) (ht : ch ∉ t) :
    lastIndexOf (b ++ ch :: t) ch = some b.length := by
  unfold lastIndexOf
  rw [List.find?_eq_some_iff_append]
  -- the indices counted down: those of `t`, then that of `ch`, then those of `b`
  refine ⟨by simp, ((List.range t.length).map (b.length + 1 + ·)).reverse, (List.range b.length).reverse, ?_, ?_⟩
  · rw [show (b ++ ch :: t).length = b.length + 1 + t.length by rw [List.length_append, List.length_cons]; omega,
      List.range_add, List.range_succ, List.reverse_append, List.reverse_append, List.reverse_singleton, List.singleton_append]
  · intro i hi
    obtain ⟨j, hj, rfl⟩ : ∃ j, j < t.length ∧ b.length + 1 + j = i := by simpa using hi
    rw [List.getD_eq_getElem?_getD, List.getElem?_append_right (by omega), show b.length + 1 + j - b.length = j + 1 by omega,
      List.getElem?_cons_succ, List.getElem?_eq_getElem hj]
    simp only [Option.getD_some, Bool.not_eq_true', beq_eq_false_iff_ne, ne_eq]
    intro he
    exact ht (he ▸ List.getElem_mem hj)

/-- `t` is the NUL, or nothing -/
theorem unarmor_ok (m : Msg) (x t : Bytes) (ht : (58 : UInt8) ∉ t)
    (hd : m.data.take m.dataLen = prefixB ++ Base64.encodeBlock x ++ 58 :: t) : unarmor m = .ok x := by
  unfold unarmor
  simp only [hd, prefixB_eq, suffixB_eq]
  have h1 : List.dropWhile isSpaceC ([77, 85, 78, 71, 69, 58] ++ Base64.encodeBlock x ++ 58 :: t)
      = [77, 85, 78, 71, 69, 58] ++ Base64.encodeBlock x ++ 58 :: t := by
    simp [isSpaceC]
  rw [h1]
  have h2 : ([77, 85, 78, 71, 69, 58] ++ Base64.encodeBlock x ++ 58 :: t).drop ([77, 85, 78, 71, 69, 58] : Bytes).length
      = Base64.encodeBlock x ++ 58 :: t := by simp
  rw [h2]
  have h3 : ([58] : Bytes).getD 0 58 = 58 := rfl
  rw [h3, lastIndexOf_append _ _ _ ht]
  simp [C19.decode_encode]

theorem decMid_ok (P : Prims) (L : PrimLaws P) (cf : Conf) (rs : ReplaySet) (m m' : Msg) (s : Scratch)
    (plain inner : Bytes)
    (hcv : m.cipher = 0 ∨ P.cipherValid m.cipher = true) (hzv : m.zip = 0 ∨ P.zipValid m.zip = true)
    (he : m.errorNum = 0)
    (hmac : s.mac = P.mac m.mac cf.macKey (s.outer ++ plain)) (hml : s.macLen = s.mac.length)
    (hin : s.inner = if m.cipher = 0 then plain else P.encrypt m.cipher (P.mac m.mac cf.dekKey s.mac) s.iv plain)
    (hpl : plain = if m.zip = 0 then inner else be32 3402287818 ++ be32 inner.length ++ P.deflate m.zip inner)
    (hne : inner ≠ []) (hlen : inner.length < 2147483648)
    (hu : unpackInner m inner = .ok m') :
    decMid P cf rs m s = .inr (m', { s with inner := inner }) := by
  have hp : (decDecrypt P cf m s).2.inner = plain ∧ PadOk P cf m s := by
    rw [decDecrypt_inner]
    unfold PadOk
    by_cases hc : m.cipher = 0
    · rw [if_pos hc] at hin ⊢; exact ⟨hin, fun h => absurd hc h⟩
    · rw [if_neg hc] at hin ⊢
      rw [hin, L.dec_enc _ _ _ _ (hcv.resolve_left hc)]
      exact ⟨rfl, fun _ => rfl⟩
  have hz : decDecompress P m { s with inner := plain } = .ok { s with inner := inner } := by
    unfold decDecompress
    by_cases hc : m.zip = 0
    · rw [if_pos hc]; rw [if_pos hc] at hpl; rw [hpl]
    · rw [if_neg hc]; rw [if_neg hc] at hpl
      have hv : P.zipValid m.zip = true := by rcases hzv with h | h; exact absurd h hc; exact h
      have hl0 : 0 < inner.length := List.length_pos_iff.mpr hne
      simp only [hpl, zipLength_header _ hlen]
      rw [if_neg (by omega)]
      have : (be32 3402287818 ++ be32 inner.length ++ P.deflate m.zip inner).drop 8 = P.deflate m.zip inner := by
        rw [List.drop_left' (by simp)]
      rw [this, Int.toNat_natCast, L.inflate_deflate _ _ hv hne]
  rw [decMid_eq, if_pos ⟨⟨by rw [hp.1]; exact hmac.symm, hp.2⟩, hml.symm, he⟩, hp.1, hz]
  dsimp only
  rw [hu]

/-- the TTL the decoder reports: capped by its maximum -/
def capT (cf : Conf) (ttl : Nat) : Nat := (if (ttl : Int) > cf.maxTtl then cf.maxTtl else (ttl : Int)).toNat

theorem capT_cast (cf : Conf) (ttl : Nat) (h : 0 ≤ cf.maxTtl) :
    ((capT cf ttl : Nat) : Int) = if (ttl : Int) > cf.maxTtl then cf.maxTtl else ttl := by
  unfold capT
  rw [Int.toNat_of_nonneg (by split <;> omega)]

/-- the restrictions `au`, `ag` of a credential admit the client `uid`, `gid`: `C04.Authorized` read on the model's
    naturals and booleans.  C01, C10 and `Retry.DecSetup` write this and `InWindow` out in their hypotheses. -/
def Authorized (cf : Conf) (env : Env) (au ag uid gid : Nat) : Prop :=
  (au = UID_ANY ∨ au = uid ∨ (cf.gotRootAuth = true ∧ uid = 0)) ∧ (ag = GID_ANY ∨ ag = gid ∨ env.member uid ag = true)

/-- `now` lies in the validity window of a credential encoded at `t0` with `ttl` (`ttl'` is `C06.cap`, `sk` is `C06.skew`),
    and the window does not wrap 32 bits: where `C06.window_exact` has `dec_validate_time` accept -/
def InWindow (cf : Conf) (ttl t0 : Nat) (now : Int) : Prop :=
  let ttl' : Int := if (ttl : Int) > cf.maxTtl then cf.maxTtl else ttl
  let sk : Int := if cf.gotClockSkew then ttl' else 1
  sk ≤ t0 ∧ t0 + ttl' < 4294967296 ∧ (t0 : Int) - sk ≤ now ∧ now ≤ t0 + ttl'

/-- for an authorised client inside the validity window the tail is its replay stage -/
theorem decTail_valid (cf : Conf) (env : Env) (rs : ReplaySet) (m : Msg) (s : Scratch)
    (hr : m.authUid < 4294967296 ∧ m.authGid < 4294967296 ∧ m.clientUid < 4294967296 ∧ m.clientGid < 4294967296 ∧
          m.ttl < 4294967296 ∧ m.time0 < 4294967296 ∧ m.time1 < 4294967296)
    (hcf : 1 ≤ cf.maxTtl ∧ cf.maxTtl ≤ MUNGE_MAXIMUM_TTL)
    (hauth : Authorized cf env m.authUid m.authGid m.clientUid m.clientGid) (hwin : InWindow cf m.ttl m.time0 m.time1) :
    decTail cf env rs m s = decReplay cf rs { m with ttl := capT cf m.ttl } s := by
  have hA : (dec_validate_auth m.authUid m.authGid m.clientUid m.clientGid (b2int cf.gotRootAuth)
      (fun u g => b2int (env.member u.toNat g.toNat))).ret = 0 := by
    refine (C04.auth_spec _ _ _ _ _ _ (by unfold C04.Ranges b2int; split <;> omega)).mpr ⟨?_, ?_⟩
    · exact hauth.1.imp (fun h => by rw [h]; rfl)
        (Or.imp (fun h => by rw [h]) fun ⟨h1, h2⟩ => ⟨by rw [h1]; decide, by rw [h2]; rfl⟩)
    · refine hauth.2.imp (fun h => by rw [h]; rfl) (Or.imp (fun h => by rw [h]) fun h => ?_)
      simp only [Int.toNat_natCast, h]
      decide
  have hR : C06.Ranges m.ttl m.time0 m.time1 cf.maxTtl (b2int cf.gotClockSkew) := by
    unfold C06.Ranges b2int; split <;> omega
  have hsk : C06.skew m.ttl cf.maxTtl (b2int cf.gotClockSkew) = if cf.gotClockSkew then C06.cap m.ttl cf.maxTtl else 1 := by
    unfold C06.skew b2int; cases cf.gotClockSkew <;> rfl
  have hT := (C06.window_exact _ _ _ _ _ hR (by rw [hsk]; exact hwin.1) hwin.2.1).1 (by rw [hsk]; exact hwin.2.2)
  have hG := C06.decode_caps_ttl _ _ _ _ _ hR
  rw [decTail_eq]
  dsimp only
  rw [if_neg (by rw [hA]; omega), if_neg (by rw [hT.1]; omega), hG]
  rfl

section
open Munge.SpecV3
/-- the MAC of the reference credential -/
def specTag (P : Prims) (macKey : Bytes) (f : Fields) : Bytes := P.mac f.mac macKey (outer f ++ compressed P f)
/-- its (encrypted) body -/
def specBody (P : Prims) (macKey dekKey : Bytes) (f : Fields) : Bytes :=
  if f.cipher = 0 then compressed P f else P.encrypt f.cipher (P.mac f.mac dekKey (specTag P macKey f)) f.iv (compressed P f)

theorem emit_eq (P : Prims) (macKey dekKey : Bytes) (f : Fields) :
    emit P macKey dekKey f = prefixB ++ Base64.encodeBlock (outer f ++ specTag P macKey f ++ specBody P macKey dekKey f) ++ [58] := by
  unfold emit specBody specTag
  rw [encodeBlock_eq_base64, ← suffixB_eq]
  rfl

/- the message and the scratch area after the front part, the message after the middle part, on the reference
   credential of `f` -/
def frontMsg (env : Env) (m0 : Msg) (uid gid : Nat) (f : Fields) : Msg :=
  { m0 with
    time0 := 0, time1 := (wrapU32 env.now).toNat, clientUid := uid, clientGid := gid, data := [], dataLen := 0,
    cipher := f.cipher, mac := f.mac, zip := f.zip,
    realm := if f.realm.length > 0 then f.realm ++ [0] else m0.realm,
    realmLen := if f.realm.length > 0 then (f.realm.length + 1) % 256 else f.realm.length }
def frontScr (P : Prims) (cf : Conf) (f : Fields) : Scratch :=
  { outer := outer f, mac := specTag P cf.macKey f, inner := specBody P cf.macKey cf.dekKey f, iv := f.iv,
    macLen := (specTag P cf.macKey f).length }
def midMsg (env : Env) (m0 : Msg) (uid gid : Nat) (f : Fields) : Msg :=
  { frontMsg env m0 uid gid f with
    addrLen := f.addr.length, addr := if f.addr.length = 4 then f.addr else [0, 0, 0, 0], time0 := f.time0, ttl := f.ttl,
    credUid := f.uid, credGid := f.gid, authUid := f.authUid, authGid := f.authGid, dataLen := f.payload.length, data := f.payload }

theorem decFront_ok (P : Prims) (L : PrimLaws P) (cf : Conf) (env : Env) (rs : ReplaySet) (f : Fields) (hf : WF P f)
    (uid gid : Nat) (hp : env.peer = some (uid, gid)) (hnow : env.now ≠ -1)
    (m0 : Msg) (t : Bytes) (ht : (58 : UInt8) ∉ t) (hd : m0.data.take m0.dataLen = emit P cf.macKey cf.dekKey f ++ t)
    (hretry : m0.retry ≤ 5) :
    decFront P env rs m0 = .inr (frontMsg env m0 uid gid f, frontScr P cf f) := by
  have hdl : m0.dataLen ≠ 0 := by
    intro h0
    rw [h0, List.take_zero, emit_eq, prefixB_eq] at hd
    simp at hd
  unfold decFront
  have hv : ¬ (dec_validate_msg m0.dataLen (if m0.dataLen > 0 then 1 else 0)).ret < 0 := by
    rw [(dec_validate_msg_out _ _).1, if_pos (by omega)]
    omega
  have hr : ∀ a b : Int, ¬ (dec_check_retry m0.retry a b).ret < 0 := by
    intro a b
    rw [(dec_check_retry_out _ a b).1]
    omega
  simp only [hv, if_false, hnow, hp, hr]
  rw [unarmor_ok _ (outer f ++ specTag P cf.macKey f ++ specBody P cf.macKey cf.dekKey f) t ht
    (by simp only [hd, emit_eq, List.append_assoc, List.cons_append, List.nil_append])]
  simp only []
  have hmacl := L.mac_length f.mac cf.macKey (outer f ++ compressed P f) hf.mac_ok
  obtain ⟨r1, r2, r3, _⟩ := hf.ranges
  have := unpackOuter_pack P L { m0 with time0 := 0, time1 := (wrapU32 env.now).toNat, clientUid := uid, clientGid := gid, data := [], dataLen := 0 }
    f.cipher f.mac f.zip f.realm f.iv (specTag P cf.macKey f) (specBody P cf.macKey cf.dekKey f)
    r1 r2 r3 hf.realm_len hf.cipher_ok hf.mac_ok hf.dek_ok hf.zip_ok hf.iv_len hmacl
  unfold outer
  rw [this]
  rfl

theorem inner_length (f : Fields) : (inner f).length = f.salt.length + 1 + f.addr.length + 28 + f.payload.length := by
  unfold inner u32be
  simp only [List.length_append, List.length_cons, List.length_nil]

/-- what the decoder returns for the reference credential of `f`: `midMsg` with the TTL capped -/
def decodedMsg (cf : Conf) (env : Env) (m0 : Msg) (uid gid : Nat) (f : Fields) : Msg :=
  { m0 with
    time0 := f.time0, time1 := (wrapU32 env.now).toNat, clientUid := uid, clientGid := gid,
    cipher := f.cipher, mac := f.mac, zip := f.zip,
    realm := if f.realm.length > 0 then f.realm ++ [0] else m0.realm,
    realmLen := if f.realm.length > 0 then (f.realm.length + 1) % 256 else f.realm.length,
    addrLen := f.addr.length, addr := if f.addr.length = 4 then f.addr else [0, 0, 0, 0],
    ttl := capT cf f.ttl, credUid := f.uid, credGid := f.gid, authUid := f.authUid, authGid := f.authGid,
    dataLen := f.payload.length, data := f.payload }

-- under the name by which the statements of C13 know it; defined here because `decode_emit` is stated with it
/-- the replay key of the reference credential of `f` -/
def _root_.Munge.Retry.specKey (P : Prims) (cf : Conf) (f : Fields) : ReplayKey :=
  ((specTag P cf.macKey f).take 16, (f.time0 + capT cf f.ttl) % 4294967296)

theorem replayKey_decoded (P : Prims) (cf : Conf) (env : Env) (m0 : Msg) (uid gid : Nat) (f : Fields) (i : Bytes) :
    replayKey (decodedMsg cf env m0 uid gid f) { frontScr P cf f with inner := i } = Retry.specKey P cf f := rfl

section
/- The setting of `decode_emit_valid` and `decode_emit`: the request `m0` carries the reference credential of well-formed
   fields `f` (and a tail `t` after the armor: the NUL, or nothing); the client `uid`, `gid` is authorised and inside the
   validity window. -/
variable (P : Prims) (L : PrimLaws P) (cf : Conf) (env : Env) (rs : ReplaySet) (f : Fields) (hf : WF P f)
  (uid gid : Nat) (hp : env.peer = some (uid, gid)) (hid : uid < 4294967296 ∧ gid < 4294967296)
  (hcf : 1 ≤ cf.maxTtl ∧ cf.maxTtl ≤ MUNGE_MAXIMUM_TTL) (hnow : 0 ≤ env.now ∧ env.now < 4294967296)
  (hauth : Authorized cf env f.authUid f.authGid uid gid) (hwin : InWindow cf f.ttl f.time0 env.now)
  (m0 : Msg) (t : Bytes) (ht : (58 : UInt8) ∉ t) (hd : m0.data.take m0.dataLen = emit P cf.macKey cf.dekKey f ++ t)
  (hretry : m0.retry ≤ 5) (herr : m0.errorNum = 0)
include L hf hp hid hcf hnow hauth hwin ht hd hretry herr

/-- the decode gets as far as the replay stage, with the fields of `f` in the message -/
theorem decode_emit_valid :
    decProcess P cf env rs m0 = decReplay cf rs (decodedMsg cf env m0 uid gid f) { frontScr P cf f with inner := inner f } := by
  obtain ⟨r1, r2, r3, r4, r5, r6, r7, r8, r9, r10⟩ := hf.ranges
  have hil := inner_length f
  have hal := hf.addr_len
  have hsl := hf.salt_len
  unfold decProcess
  have h1 := decFront_ok P L cf env rs f hf uid gid hp (by omega) m0 t ht hd hretry
  have h2 : decMid P cf rs (frontMsg env m0 uid gid f) (frontScr P cf f) =
      .inr (midMsg env m0 uid gid f, { frontScr P cf f with inner := inner f }) :=
    decMid_ok P L cf rs (frontMsg env m0 uid gid f) (midMsg env m0 uid gid f) (frontScr P cf f) (compressed P f) (inner f)
      hf.cipher_ok hf.zip_ok herr rfl rfl rfl rfl
      (by intro h; rw [h] at hil; simp at hil; omega) (by omega)
      (unpackInner_pack (frontMsg env m0 uid gid f) f.salt f.addr f.payload f.time0 f.ttl f.uid f.gid f.authUid f.authGid hsl hal
        (by omega) (by omega) (by omega) (by omega) (by omega) (by omega) (by omega))
  have ht1 : (((wrapU32 env.now).toNat : Nat) : Int) = env.now := by
    rw [Int.toNat_of_nonneg (by have := wrapU32_range env.now; omega), wrapU32_id hnow.1 hnow.2]
  rw [← ht1] at hwin
  have h3 := decTail_valid cf env rs (midMsg env m0 uid gid f) { frontScr P cf f with inner := inner f }
    ⟨by show f.authUid < _; omega, by show f.authGid < _; omega, hid.1, hid.2, by show f.ttl < _; omega,
      by show f.time0 < _; omega, by show (wrapU32 env.now).toNat < _; omega⟩ hcf hauth hwin
  rw [h1]; simp only []
  rw [h2]; simp only []
  rw [h3]
  rfl

/-- Freshness is said the way the property theorems say it: whatever key the decode would record in an empty cache is
    not in `rs`. -/
theorem decode_emit (hfresh : ∀ k, (decProcess P cf env [] m0).key = some k → k ∉ rs) :
    decProcess P cf env rs m0 =
      { msg := decodedMsg cf env m0 uid gid f,
        rc := 0, inserted := true,
        key := some (Retry.specKey P cf f), replay := Retry.specKey P cf f :: rs } := by
  have hv := fun rs => decode_emit_valid P L cf env rs f hf uid gid hp hid hcf hnow hauth hwin m0 t ht hd hretry herr
  rw [hv rs, decReplay_eq, replayKey_decoded, if_pos (hfresh _ (by rw [hv [], decReplay_key, replayKey_decoded]))]
end

theorem encCred_spec (P : Prims) (cf : Conf) (env : Env) (m1 : Msg) (uid gid : Nat)
    (hd : m1.data.length = m1.dataLen) (hr : m1.realm.length = m1.realmLen) (ha : cf.addr.length = 4) :
    encCred P cf env m1 uid gid = emit P cf.macKey cf.dekKey (encF P cf env m1 uid gid) ++ [0] := by
  have hO : encOuter P cf env m1 uid gid = outer (encF P cf env m1 uid gid) := by
    unfold encOuter packOuter outer encF
    simp only [List.length_take, hr, Nat.min_self]
    rfl
  have hI : encInner cf env m1 uid gid = inner (encF P cf env m1 uid gid) := by
    unfold encInner packInner inner encF encMsg
    simp only [List.length_take, ha, Nat.min_self, ← hd, List.take_length]
    rfl
  have hP : encPlain P cf env m1 uid gid = compressed P (encF P cf env m1 uid gid) := by
    unfold encPlain compressed
    rw [← hI]
    show _ = if encZip P cf env m1 uid gid = 0 then _ else u32be 3402287818 ++ _ ++ P.deflate (encZip P cf env m1 uid gid) _
    unfold encZip
    by_cases hu : encUseZip P cf env m1 uid gid
    · simp only [hu, if_true, hu.1, if_false]; rfl
    · simp only [hu, if_false, if_true]
  unfold encCred encTag emit armor
  rw [hO, hP, armor_rfc]
  rfl
end

end Munge.Cred.B
