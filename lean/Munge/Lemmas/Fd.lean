import Munge.Model.Fd
import Munge.Lemmas.Kernel
/-
Lemmas for the `Fd` model (C08 sub-check).  `Spec.*` is the reviewed reading of the decision kernels of the three
timed routines, written by hand with the same C conversions the translator makes explicit; nothing in this file looks at
a kernel of `Munge.Gen.Fd` (only at its control codes).  `Props/C08Fd.lean` proves that the routines assembled from the
generated kernels ARE the spec routines (re-checked on every run against the fd.c of that run) and transports the
statements.

The loop is taken apart once, for any `Routine` (`ioPhase_elim`, `step_elim`, `run_sat`), and the reviewed kernels are
unfolded once (`spec_afterPoll_cases`, `spec_afterIo_cases`, by control code, as the two eliminations ask for it).  Each
invariant (time blocked, return value and errno, events consumed, calls counted, bytes transferred) is those plus what
`doPoll` and `doIo` do to the fields it speaks of.
-/
namespace Munge.Fd
open Munge.C

namespace Spec

def guard2 (fd p _c e : Int) : Int × Int := if fd < 0 ∨ p = 0 then (-1, 22) else (0, e)
def guard3 (fd p c e : Int) : Int × Int := if (fd < 0 ∨ p = 0) ∨ c ≤ 0 then (-1, 22) else (0, e)
def skip (d nl : Int) : Int × Int := if d ≠ 0 ∧ nl > 0 then (1, -1) else (0, 0)
def cond (nl : Int) : Int := if nl > 0 then 1 else 0

/-- the value `_fd_get_poll_timeout` computes from a clock reading (before the clamp at 0) -/
def rawMsecs (ws wu ns nu : Int) : Int :=
  wrapS32 (wrapS64 (wrapS64 (wrapS64 (ws - ns) * 1000) + wrapS64 (cdiv (wrapS64 (wrapS64 (wu - nu) + 999)) 1000)))

def tmo (whenP ws wu ns nu : Int) : Int × Bool :=
  if whenP = 0 then (-1, false)
  else if ws = 0 ∧ wu = 0 then (0, false)
  else (if rawMsecs ws wu ns nu < 0 then 0 else rawMsecs ws wu ns nu, true)

def afterPollR (nfd e rev : Int) : Int × Int :=
  if nfd < 0 then (if e = 4 ∨ e = 11 then (1, e) else (3, e))
  else if nfd = 0 then (2, 110)
  else if band rev 32 ≠ 0 then (3, 9)
  else if band rev 8 ≠ 0 then (3, 5)
  else (0, e)

def afterPollW (nfd e rev : Int) : Int × Int :=
  if nfd < 0 then (if e = 4 ∨ e = 11 then (1, e) else (3, e))
  else if nfd = 0 then (2, 110)
  else if band rev 16 ≠ 0 then (2, e)
  else if band rev 32 ≠ 0 then (3, 9)
  else if band rev 8 ≠ 0 then (3, 5)
  else (0, e)

def afterIoR (n e nl ms : Int) : Int × Int :=
  if n < 0 then (if e = 4 ∨ e = 11 then (1, nl) else (3, nl))
  else if n = 0 then (2, nl)
  else (if ms = 0 then 2 else 0, wrapU64 (nl - wrapU64 n))

def afterIoW (n e nl ms : Int) : Int × Int :=
  if n < 0 then (if e = 4 ∨ e = 11 then (1, nl) else (3, nl))
  else (if ms = 0 then 2 else 0, wrapU64 (nl - wrapU64 n))

def ret (n nl : Int) : Int := wrapS64 (wrapU64 (n - nl))

def advCond (i c nw : Int) : Int := if i < c ∧ nw > 0 then 1 else 0

def advTake (nw l : Int) : Int := if wrapU64 nw > l then l else wrapU64 nw

def advBody (nw l : Int) : Int × Int × Int × Int :=
  if advTake nw l = 0 then (1, advTake nw l, nw, l)
  else (0, advTake nw l, wrapS64 (wrapU64 (wrapU64 nw - advTake nw l)), wrapU64 (l - advTake nw l))

def routine : Kind → Routine
  | .readN => { kind := .readN, events := 1, guard := guard2, skip := skip, cond := cond, tmo := tmo, afterPoll := afterPollR,
                afterIo := afterIoR, ret := ret, advCond := fun _ _ _ => 0, advBody := fun nw l => (0, 0, nw, l) }
  | .writeN => { kind := .writeN, events := 4, guard := guard2, skip := skip, cond := cond, tmo := tmo, afterPoll := afterPollW,
                 afterIo := afterIoW, ret := ret, advCond := fun _ _ _ => 0, advBody := fun nw l => (0, 0, nw, l) }
  | .writeIov => { kind := .writeIov, events := 4, guard := guard3, skip := skip, cond := cond, tmo := tmo, afterPoll := afterPollW,
                   afterIo := afterIoW, ret := ret, advCond := advCond, advBody := advBody }

end Spec

/-- the deadline (`ws`, `wu`) and the clock reading `w` (µs) are close enough for the `int` arithmetic of `_fd_get_poll_timeout` -/
def InRange (ws wu w : Int) : Prop :=
  0 ≤ wu ∧ wu < 1000000 ∧ -4000000000000 ≤ ws ∧ ws ≤ 4000000000000 ∧ -4000000000000000000 ≤ w ∧ w ≤ 4000000000000000000 ∧
  -2000000000000 ≤ ws * 1000000 + wu - w ∧ ws * 1000000 + wu - w ≤ 2000000000000

theorem rawMsecs_bounds {ws wu w : Int} (h : InRange ws wu w) :
    (ws * 1000000 + wu - w ≤ 0 → Spec.rawMsecs ws wu (w / 1000000) (w % 1000000) ≤ 0) ∧
    (ws * 1000000 + wu - w > 0 → ws * 1000000 + wu - w ≤ 1000 * Spec.rawMsecs ws wu (w / 1000000) (w % 1000000) ∧
      1000 * Spec.rawMsecs ws wu (w / 1000000) (w % 1000000) ≤ ws * 1000000 + wu - w + 1998) := by
  obtain ⟨h1, h2, h3, h4, h5, h6, h7, h8⟩ := h
  have hx : wrapS64 (wrapS64 (wu - w % 1000000) + 999) = wu - w % 1000000 + 999 := by simp only [wrapS64]; omega
  have hs : Int.sign 1000 = 1 := rfl
  -- C division is floor division, plus one when the dividend is negative and not a multiple of the divisor
  simp only [Spec.rawMsecs, hx, Int.tdiv_eq_ediv, hs, wrapS32, wrapS64]
  split <;> omega

def Outcome.st : Outcome → St
  | .cont s => s
  | .done x => x.st

def Outcome.sat (P : St → Prop) (Q : Result → Prop) : Outcome → Prop
  | .cont s => P s
  | .done x => Q x

def divergedAt (s : St) : Result := { ret := -2, errno := s.errno, st := s, diverged := true }

/-- `P` may speak of the fuel left: that it never runs out is an instance (`run_terminates_of`). -/
theorem iterate_sat {r : Routine} {cfg : Cfg} {P : Nat → St → Prop} {Q : Result → Prop}
    (hstep : ∀ f s, P (f + 1) s → (step r cfg s).sat (P f) Q) (hdiv : ∀ s, P 0 s → Q (divergedAt s)) :
    ∀ f s, P f s → Q (iterate r cfg f s)
  | 0, s, hs => hdiv s hs
  | f + 1, s, hs => by
    have h := hstep f s hs
    unfold iterate
    cases hst : step r cfg s with
    | cont s' => rw [hst] at h; exact iterate_sat hstep hdiv f s' h
    | done x => rw [hst] at h; exact h

theorem run_sat {r : Routine} {cfg : Cfg} {pq : List PollEv} {iq : List IoEv} {P : Nat → St → Prop} {Q : Result → Prop}
    (hinit : P (fuelFor pq iq) (init r cfg pq iq))
    (hguard : ∀ g e, r.guard cfg.fd cfg.ptr (cfg.chunks.length : Nat) 0 = (g, e) → g ≠ 0 →
      Q { ret := g, errno := e, st := { init r cfg pq iq with errno := e } })
    (hio : ∀ m, P (fuelFor pq iq) (init r cfg pq iq) → (ioPhase r cfg m (init r cfg pq iq)).sat (P (fuelFor pq iq)) Q)
    (hstep : ∀ f s, P (f + 1) s → (step r cfg s).sat (P f) Q) (hdiv : ∀ s, P 0 s → Q (divergedAt s)) :
    Q (run r cfg pq iq) := by
  unfold run
  rcases hg : r.guard cfg.fd cfg.ptr (cfg.chunks.length : Nat) 0 with ⟨g, e⟩
  simp only []
  by_cases hg0 : g ≠ 0
  · rw [if_pos hg0]; exact hguard g e hg hg0
  · rw [if_neg hg0]
    split
    · have h := hio (r.skip cfg.skip (init r cfg pq iq).nleft).2 hinit
      split <;> rename_i hp <;> rw [hp] at h
      · exact h
      · exact iterate_sat hstep hdiv _ _ h
    · exact iterate_sat hstep hdiv _ _ hinit

/-- timeout handed to poll in the trip that starts in `s` -/
def pollMsecs (r : Routine) (cfg : Cfg) (s : St) : Int :=
  (r.tmo cfg.whenP cfg.ws cfg.wu ((drain s.pollQ s.wall).2 / 1000000) ((drain s.pollQ s.wall).2 % 1000000)).1

/-- state after `_fd_get_poll_timeout` -/
def prePoll (r : Routine) (cfg : Cfg) (s : St) : St :=
  if (r.tmo cfg.whenP cfg.ws cfg.wu ((drain s.pollQ s.wall).2 / 1000000) ((drain s.pollQ s.wall).2 % 1000000)).2 then
    { s with pollQ := (drain s.pollQ s.wall).1, wall := (drain s.pollQ s.wall).2,
             trace := s.trace ++ [Call.gettime (drain s.pollQ s.wall).2] }
  else s

/-- the result of `doPoll`, its parts named: µs `slept` inside poll, `rest` of the queue, `wall` clock with the pending steps
    applied (before the sleep) -/
structure Polled where
  (nfd errno revents slept : Int) (rest : List PollEv) (wall : Int)

def Polled.of : Int × Int × Int × Int × List PollEv × Int → Polled
  | (nfd, errno, revents, slept, rest, wall) => { nfd, errno, revents, slept, rest, wall }

def polled (msecs errno : Int) (q : List PollEv) (w : Int) : Polled := .of (doPoll msecs errno q w)

def pollRes (r : Routine) (cfg : Cfg) (s : St) : Polled :=
  polled (pollMsecs r cfg s) (prePoll r cfg s).errno (prePoll r cfg s).pollQ (prePoll r cfg s).wall

/-- (control code, errno) decided by the chain after poll -/
def pollDecision (r : Routine) (cfg : Cfg) (s : St) : Int × Int :=
  r.afterPoll (pollRes r cfg s).nfd (pollRes r cfg s).errno (pollRes r cfg s).revents

/-- state after poll and the chain on its result -/
def postPoll (r : Routine) (cfg : Cfg) (s : St) : St :=
  { prePoll r cfg s with
    pollQ := (pollRes r cfg s).rest, wall := (pollRes r cfg s).wall + (pollRes r cfg s).slept,
    blocked := (prePoll r cfg s).blocked + (pollRes r cfg s).slept,
    trace := (prePoll r cfg s).trace ++ [Call.poll (pollMsecs r cfg s) (pollRes r cfg s).nfd (pollRes r cfg s).slept],
    errno := (pollDecision r cfg s).2 }

/-- the I/O call leaves the clock, the poll script, the trace and the cursor alone -/
structure IoFrame (s s1 : St) : Prop where
  blocked : s1.blocked = s.blocked
  wall : s1.wall = s.wall
  pollQ : s1.pollQ = s.pollQ
  trace : s1.trace = s.trace
  nleft : s1.nleft = s.nleft
  p : s1.p = s.p
  iov : s1.iov = s.iov

theorem doIo_frame {k : Kind} {s s1 : St} {nio e : Int} (h : doIo k s = (nio, e, s1)) : IoFrame s s1 := by
  unfold doIo at h
  (repeat' split at h) <;> cases h <;> constructor <;> rfl

/-- poll leaves the cursor, the data and the I/O script alone -/
structure PollFrame (s s1 : St) : Prop where
  nleft : s1.nleft = s.nleft
  p : s1.p = s.p
  iov : s1.iov = s.iov
  src : s1.src = s.src
  buf : s1.buf = s.buf
  sink : s1.sink = s.sink
  ioQ : s1.ioQ = s.ioQ

theorem postPoll_frame (r : Routine) (cfg : Cfg) (s : St) : PollFrame s (postPoll r cfg s) := by
  unfold postPoll prePoll; split <;> constructor <;> rfl

def noJumpHead : List PollEv → Prop
  | .jump _ :: _ => False
  | _ => True

theorem drain_spec : ∀ q w, (drain q w).1.length ≤ q.length ∧ noJumpHead (drain q w).1
  | [], w => by simp [drain, noJumpHead]
  | .ready _ _ :: q, w => by simp [drain, noJumpHead]
  | .fail _ _ :: q, w => by simp [drain, noJumpHead]
  | .jump d :: q, w => by have := drain_spec q (w + d); simp only [drain, List.length_cons]; exact ⟨by omega, this.2⟩

theorem doPoll_spec (m e : Int) : ∀ q w,
    (0 ≤ (polled m e q w).nfd → (polled m e q w).errno = e) ∧
    (polled m e q w).rest.length ≤ q.length ∧
    (0 < (polled m e q w).nfd → (polled m e q w).rest.length < q.length) ∧
    ((polled m e q w).nfd < 0 → (polled m e q w).errno ≠ ESCRIPT → (polled m e q w).rest.length < q.length)
  | [], w => by unfold polled doPoll; split <;> simp [Polled.of]
  | .ready dt rev :: q, w => by unfold polled doPoll; split <;> simp [Polled.of]
  | .fail dt e' :: q, w => by unfold polled doPoll; split <;> simp [Polled.of]
  | .jump d :: q, w => by
    have := doPoll_spec m e q (w + d)
    unfold polled at this ⊢; unfold doPoll; simp only [List.length_cons]; omega

theorem pollRes_spec (r : Routine) (cfg : Cfg) (s : St) :
    (0 ≤ (pollRes r cfg s).nfd → (pollRes r cfg s).errno = s.errno) ∧
    (pollRes r cfg s).rest.length ≤ s.pollQ.length ∧
    (0 < (pollRes r cfg s).nfd → (pollRes r cfg s).rest.length < s.pollQ.length) ∧
    ((pollRes r cfg s).nfd < 0 → (pollRes r cfg s).errno ≠ ESCRIPT → (pollRes r cfg s).rest.length < s.pollQ.length) := by
  have h := doPoll_spec (pollMsecs r cfg s) (prePoll r cfg s).errno (prePoll r cfg s).pollQ (prePoll r cfg s).wall
  have he : (prePoll r cfg s).errno = s.errno := by unfold prePoll; split <;> rfl
  have hl : (prePoll r cfg s).pollQ.length ≤ s.pollQ.length := by
    unfold prePoll; split
    · exact (drain_spec _ _).1
    · exact Nat.le_refl _
  rw [he] at h
  unfold pollRes; rw [he]; omega

theorem doIo_spec {k : Kind} {s s1 : St} {nio e : Int} (h : doIo k s = (nio, e, s1)) :
    (0 ≤ nio → e = s.errno ∧ ∃ n q, s.ioQ = .xfer n :: q) ∧
    (nio < 0 → s1.src = s.src ∧ s1.buf = s.buf ∧ s1.sink = s.sink) ∧
    s1.ioQ.length ≤ s.ioQ.length ∧ ((0 ≤ nio ∨ e ≠ ESCRIPT) → s1.ioQ.length < s.ioQ.length) := by
  unfold doIo at h
  (repeat' split at h) <;> cases h <;> simp [*] <;> omega

/-- the control codes of the kernels in `Gen.Fd`: 0 = fall through, 1 = continue, 2 = break, else return -1.  The
    hypotheses say 1 and 2, the dispatch `Gen.Fd.CONT` and `Gen.Fd.BRK`: the proof is where the two meet. -/
theorem code_elim {α : Type} {C : α → Prop} {c : Int} {a0 a1 a2 a3 : α}
    (h0 : c = 0 → C a0) (h1 : c = 1 → C a1) (h2 : c = 2 → C a2) (h3 : c ≠ 0 → c ≠ 1 → c ≠ 2 → C a3) :
    C (if c = 0 then a0 else if c = Gen.Fd.CONT then a1 else if c = Gen.Fd.BRK then a2 else a3) := by
  by_cases c0 : c = 0
  · rw [if_pos c0]; exact h0 c0
  · rw [if_neg c0]
    by_cases c1 : c = Gen.Fd.CONT
    · rw [if_pos c1]; exact h1 c1
    · rw [if_neg c1]
      by_cases c2 : c = Gen.Fd.BRK
      · rw [if_pos c2]; exact h2 c2
      · rw [if_neg c2]; exact h3 c0 c1 c2

/-- Code 0 comes twice: the iovec is advanced only by `fd_timed_write_iov`, `p` only by the other two. -/
theorem ioPhase_elim {r : Routine} {cfg : Cfg} {m : Int} {s : St} {C : Outcome → Prop}
    (h : ∀ nio e s1 c nl', doIo r.kind s = (nio, e, s1) → r.afterIo nio e s.nleft m = (c, nl') →
      (c = 0 → r.kind = .writeIov → C (.cont { s1 with
        errno := e, trace := s1.trace ++ [Call.io nio], nleft := nl', iov := iovAdvance r (cfg.chunks.length : Nat) 0 s1.iov nio })) ∧
      (c = 0 → r.kind ≠ .writeIov →
        C (.cont { s1 with errno := e, trace := s1.trace ++ [Call.io nio], nleft := nl', p := s1.p + nio })) ∧
      (c = 1 → C (.cont { s1 with errno := e, trace := s1.trace ++ [Call.io nio], nleft := nl' })) ∧
      (c = 2 → C (.done (finish r cfg { s1 with errno := e, trace := s1.trace ++ [Call.io nio], nleft := nl' }))) ∧
      (c ≠ 0 → c ≠ 1 → c ≠ 2 →
        C (.done { ret := -1, errno := e, st := { s1 with errno := e, trace := s1.trace ++ [Call.io nio] } }))) :
    C (ioPhase r cfg m s) := by
  obtain ⟨hiov, hbuf, h1, h2, h3⟩ := h _ _ _ _ _ rfl rfl
  unfold ioPhase
  exact code_elim (fun c0 => by split; exact hiov c0 ‹_›; exact hbuf c0 ‹_›) h1 h2 h3

theorem step_elim {r : Routine} {cfg : Cfg} {s : St} {C : Outcome → Prop}
    (hexit : r.cond s.nleft = 0 → C (.done (finish r cfg s)))
    (hgo : r.cond s.nleft ≠ 0 → ∀ c e', pollDecision r cfg s = (c, e') →
      (c = 0 → C (ioPhase r cfg (pollMsecs r cfg s) (postPoll r cfg s))) ∧
      (c = 1 → C (.cont (postPoll r cfg s))) ∧
      (c = 2 → C (.done (finish r cfg (postPoll r cfg s)))) ∧
      (c ≠ 0 → c ≠ 1 → c ≠ 2 → C (.done { ret := -1, errno := e', st := postPoll r cfg s }))) :
    C (step r cfg s) := by
  unfold step
  by_cases hc : r.cond s.nleft = 0
  · rw [if_pos hc]; exact hexit hc
  · rw [if_neg hc]
    obtain ⟨g0, g1, g2, g3⟩ := hgo hc _ _ rfl
    -- `pollMsecs`, `pollDecision` and `postPoll` are the let-bindings of `step`, so its dispatch is this one by unfolding
    exact code_elim g0 g1 g2 g3

/-- `o` is reached from `s` by the calls `tl` alone: no time blocked; the clock and the poll events to come are those of `s` -/
structure Outcome.envOf (o : Outcome) (s : St) (tl : List Call) : Prop where
  blocked : o.st.blocked = s.blocked
  wall : o.st.wall = s.wall
  pollQ : o.st.pollQ = s.pollQ
  trace : o.st.trace = s.trace ++ tl

theorem ioPhase_frame (r : Routine) (cfg : Cfg) (m : Int) (s : St) : ∃ g, (ioPhase r cfg m s).envOf s [Call.io g] := by
  refine ioPhase_elim (C := fun o => ∃ g, o.envOf s [Call.io g]) fun nio e s1 c nl' hio _ => ?_
  have f := doIo_frame hio
  refine ⟨?_, ?_, ?_, ?_, ?_⟩ <;> intros <;> exact ⟨nio, f.blocked, f.wall, f.pollQ, congrArg (· ++ [Call.io nio]) f.trace⟩

/-- what may still be spent inside poll when the clock shows `w` and the deadline is `D` (both µs): the remaining
    time plus the rounding of one wait (up to 1998 µs: round-up to the next millisecond, plus the C division
    truncating towards zero when the microsecond difference is negative) -/
def slack (D w : Int) : Int := if D - w > 0 then D - w + 1998 else 0

/-- what backward steps of the clock still pending in the script can add to the wait -/
def credit : List PollEv → Int
  | [] => 0
  | .jump d :: q => (if d < 0 then -d + 1998 else 0) + credit q
  | .ready _ _ :: q => credit q
  | .fail _ _ :: q => credit q

theorem credit_nonneg : ∀ q, 0 ≤ credit q
  | [] => by simp [credit]
  | .jump d :: q => by have := credit_nonneg q; simp only [credit]; omega
  | .ready _ _ :: q => by simpa [credit] using credit_nonneg q
  | .fail _ _ :: q => by simpa [credit] using credit_nonneg q

theorem credit_eq_zero : ∀ {q}, (∀ d, PollEv.jump d ∈ q → 0 ≤ d) → credit q = 0
  | [], _ => rfl
  | .ready _ _ :: q, h => credit_eq_zero (q := q) fun d hd => h d (List.mem_cons_of_mem _ hd)
  | .fail _ _ :: q, h => credit_eq_zero (q := q) fun d hd => h d (List.mem_cons_of_mem _ hd)
  | .jump d :: q, h => by
    have := h d List.mem_cons_self
    simp only [credit, credit_eq_zero fun d hd => h d (List.mem_cons_of_mem _ hd)]; omega

theorem slack_nonneg (D w : Int) : 0 ≤ slack D w := by unfold slack; split <;> omega

theorem slack_sleep {D w m sl : Int} (h0 : 0 ≤ sl) (hm : 0 ≤ m → sl ≤ 1000 * m) (hpast : D - w ≤ 0 → m = 0)
    (hleft : D - w > 0 → D - w ≤ 1000 * m ∧ 1000 * m ≤ D - w + 1998) : sl + slack D (w + sl) ≤ slack D w := by
  unfold slack; omega

theorem drain_pot (D : Int) : ∀ q w, slack D (drain q w).2 + credit (drain q w).1 ≤ slack D w + credit q
  | [], w => by simp [drain]
  | .ready _ _ :: q, w => by simp [drain]
  | .fail _ _ :: q, w => by simp [drain]
  | .jump d :: q, w => by
    have ih := drain_pot D q (w + d)
    have : slack D (w + d) ≤ slack D w + if d < 0 then -d + 1998 else 0 := by unfold slack; omega
    simp only [drain, credit]; omega

theorem doPoll_noJump (m e : Int) : ∀ q w, noJumpHead q →
    (polled m e q w).wall = w ∧ credit (polled m e q w).rest = credit q ∧
    0 ≤ (polled m e q w).slept ∧ (0 ≤ m → (polled m e q w).slept ≤ 1000 * m)
  | [], w, _ => by unfold polled doPoll; split <;> simp [Polled.of] <;> omega
  | .ready dt rev :: q, w, _ => by unfold polled doPoll; split <;> simp [Polled.of, credit] <;> omega
  | .fail dt e' :: q, w, _ => by unfold polled doPoll; split <;> simp [Polled.of, credit] <;> omega

/-- every clock reading of the trace is within the range in which `_fd_get_poll_timeout`'s `int` arithmetic is exact -/
def sane (ws wu : Int) (t : List Call) : Prop := ∀ w, Call.gettime w ∈ t → InRange ws wu w

theorem sane_append {ws wu : Int} {t u : List Call} : sane ws wu (t ++ u) ↔ sane ws wu t ∧ sane ws wu u := by
  simp only [sane, List.mem_append, or_imp, forall_and]

theorem tmo_bounds {wp ws wu w : Int} (hp : wp ≠ 0) (hz : ¬(ws = 0 ∧ wu = 0)) (h : InRange ws wu w) :
    (ws * 1000000 + wu - w ≤ 0 → (Spec.tmo wp ws wu (w / 1000000) (w % 1000000)).1 = 0) ∧
    (ws * 1000000 + wu - w > 0 →
      ws * 1000000 + wu - w ≤ 1000 * (Spec.tmo wp ws wu (w / 1000000) (w % 1000000)).1 ∧
      1000 * (Spec.tmo wp ws wu (w / 1000000) (w % 1000000)).1 ≤ ws * 1000000 + wu - w + 1998) := by
  have hb := rawMsecs_bounds h
  unfold Spec.tmo
  simp only [hp, hz, if_false]
  constructor
  · intro h0; have := hb.1 h0; split <;> omega
  · intro h0; have := hb.2 h0; split <;> omega

theorem tmo_reads {wp ws wu : Int} (hw : wp ≠ 0) (hz : ¬(ws = 0 ∧ wu = 0)) (a b : Int) : (Spec.tmo wp ws wu a b).2 = true := by
  unfold Spec.tmo; simp [hz, hw]

theorem step_env (r : Routine) (cfg : Cfg) (s : St) :
    step r cfg s = .done (finish r cfg s) ∨
    ∃ tl, (tl = [] ∨ ∃ g, tl = [Call.io g]) ∧ (step r cfg s).envOf (postPoll r cfg s) tl := by
  refine step_elim (C := fun o => o = .done (finish r cfg s) ∨ ∃ tl, (tl = [] ∨ ∃ g, tl = [Call.io g]) ∧ o.envOf (postPoll r cfg s) tl)
    (fun _ => .inl rfl) (fun _ _ _ _ => ⟨fun _ => .inr ?_, fun _ => .inr ?_, fun _ => .inr ?_, fun _ _ _ => .inr ?_⟩)
  · obtain ⟨g, h⟩ := ioPhase_frame r cfg (pollMsecs r cfg s) (postPoll r cfg s)
    exact ⟨[Call.io g], .inr ⟨g, rfl⟩, h⟩
  -- the other three outcomes carry the state after poll
  all_goals exact ⟨[], .inl rfl, rfl, rfl, rfl, (List.append_nil _).symm⟩

theorem postPoll_reads {r : Routine} {cfg : Cfg} (s : St) (htmo : r.tmo = Spec.tmo) (hw : cfg.whenP ≠ 0) (hz : ¬(cfg.ws = 0 ∧ cfg.wu = 0)) :
    pollRes r cfg s = polled (pollMsecs r cfg s) s.errno (drain s.pollQ s.wall).1 (drain s.pollQ s.wall).2 ∧
    (postPoll r cfg s).blocked = s.blocked + (pollRes r cfg s).slept ∧
    (postPoll r cfg s).trace = s.trace ++ [Call.gettime (drain s.pollQ s.wall).2,
      Call.poll (pollMsecs r cfg s) (pollRes r cfg s).nfd (pollRes r cfg s).slept] := by
  have hp : prePoll r cfg s =
      { s with pollQ := (drain s.pollQ s.wall).1, wall := (drain s.pollQ s.wall).2, trace := s.trace ++ [Call.gettime (drain s.pollQ s.wall).2] } :=
    if_pos (htmo ▸ tmo_reads hw hz _ _)
  refine ⟨by unfold pollRes; rw [hp], by unfold postPoll; rw [hp], by unfold postPoll; rw [hp]; simp⟩

/-- the potential behind the bound on the wait: it never grows (`postPoll_pot`) -/
def pot (D : Int) (s : St) : Int := s.blocked + slack D s.wall + credit s.pollQ

theorem blocked_le_pot (D : Int) (s : St) : s.blocked ≤ pot D s := by
  have := slack_nonneg D s.wall; have := credit_nonneg s.pollQ; unfold pot; omega

theorem postPoll_pot (r : Routine) (cfg : Cfg) (s : St) (htmo : r.tmo = Spec.tmo) (hw : cfg.whenP ≠ 0) (hz : ¬(cfg.ws = 0 ∧ cfg.wu = 0))
    (hin : InRange cfg.ws cfg.wu (drain s.pollQ s.wall).2) :
    pot (cfg.ws * 1000000 + cfg.wu) (postPoll r cfg s) ≤ pot (cfg.ws * 1000000 + cfg.wu) s := by
  obtain ⟨hres, hb, -⟩ := postPoll_reads s htmo hw hz
  have hd := drain_pot (cfg.ws * 1000000 + cfg.wu) s.pollQ s.wall
  obtain ⟨p1, p2, p3, p4⟩ := doPoll_noJump (pollMsecs r cfg s) s.errno _ (drain s.pollQ s.wall).2 (drain_spec s.pollQ s.wall).2
  have tf := tmo_bounds hw hz hin
  rw [← htmo] at tf
  rw [← hres] at p1 p2 p3 p4
  have hs := slack_sleep p3 p4 tf.1 tf.2
  show (postPoll r cfg s).blocked + slack _ ((pollRes r cfg s).wall + (pollRes r cfg s).slept) + credit (pollRes r cfg s).rest ≤ _
  rw [p1]; unfold pot; omega

/-- The bound on the time blocked, for any routine whose timeout is `Spec.tmo`: `pot` never exceeds its value at entry as
    long as the clock readings so far are `sane`. -/
theorem bounded_wait_gen (r : Routine) (cfg : Cfg) (pq : List PollEv) (iq : List IoEv)
    (htmo : r.tmo = Spec.tmo) (hw : cfg.whenP ≠ 0) (hz : ¬(cfg.ws = 0 ∧ cfg.wu = 0)) :
    sane cfg.ws cfg.wu (run r cfg pq iq).st.trace →
    (run r cfg pq iq).st.blocked ≤ slack (cfg.ws * 1000000 + cfg.wu) cfg.start + credit pq := by
  let D := cfg.ws * 1000000 + cfg.wu
  let B0 := slack D cfg.start + credit pq
  let P (s : St) : Prop := sane cfg.ws cfg.wu s.trace → pot D s ≤ B0
  suffices h : P (run r cfg pq iq).st from fun hs => Int.le_trans (blocked_le_pot D _) (h hs)
  have hsat : ∀ o : Outcome, P o.st → o.sat P (fun x => P x.st) := fun o h => by cases o <;> exact h
  apply run_sat (P := fun _ => P) (Q := fun x => P x.st)
  · intro _; simp [init, pot, B0]
  · intro g e _ _ _; simp [init, pot, B0]
  · intro m hP
    obtain ⟨g, f⟩ := ioPhase_frame r cfg m (init r cfg pq iq)
    refine hsat _ (fun hs => ?_)
    rw [f.trace, sane_append] at hs
    unfold pot; rw [f.blocked, f.wall, f.pollQ]; exact hP hs.1
  · intro _ s hP
    rcases step_env r cfg s with h | ⟨tl, -, f⟩
    · rw [h]; exact hP
    · refine hsat _ (fun hs => ?_)
      rw [f.trace, (postPoll_reads s htmo hw hz).2.2, sane_append, sane_append] at hs
      unfold pot; rw [f.blocked, f.wall, f.pollQ]
      exact Int.le_trans (postPoll_pot r cfg s htmo hw hz (hs.1.2 _ (by simp))) (hP hs.1.1)
  · exact fun s hP => hP

theorem spec_cond (k : Kind) : (Spec.routine k).cond = Spec.cond := by cases k <;> rfl
theorem spec_ret (k : Kind) : (Spec.routine k).ret = Spec.ret := by cases k <;> rfl
theorem spec_tmo (k : Kind) : (Spec.routine k).tmo = Spec.tmo := by cases k <;> rfl
theorem spec_skip (k : Kind) : (Spec.routine k).skip = Spec.skip := by cases k <;> rfl
theorem spec_kind (k : Kind) : (Spec.routine k).kind = k := by cases k <;> rfl

theorem spec_cond_pos {k : Kind} {nl : Int} (h : (Spec.routine k).cond nl ≠ 0) : 0 < nl := by
  rw [spec_cond] at h; unfold Spec.cond at h; simp_all

theorem spec_guard {k : Kind} {fd p c e g e' : Int} (h : (Spec.routine k).guard fd p c e = (g, e')) (hg : g ≠ 0) :
    g = -1 ∧ e' = 22 := by
  cases k <;> simp only [Spec.routine, Spec.guard2, Spec.guard3] at h <;> split at h <;> simp_all

theorem spec_afterIo_cases {k : Kind} {n e nl ms c nl' : Int} (h : (Spec.routine k).afterIo n e nl ms = (c, nl')) :
    (c = 0 → 0 ≤ n ∧ (k = .readN → 0 < n) ∧ ms ≠ 0 ∧ nl' = wrapU64 (nl - wrapU64 n)) ∧
    (c = 1 → n < 0 ∧ (e = 4 ∨ e = 11) ∧ nl' = nl) ∧
    (c = 2 → (n = 0 ∧ k = .readN ∧ nl' = nl) ∨ (0 ≤ n ∧ (k = .readN → 0 < n) ∧ ms = 0 ∧ nl' = wrapU64 (nl - wrapU64 n))) ∧
    (c ≠ 0 → c ≠ 1 → c ≠ 2 → n < 0 ∧ e ≠ 4 ∧ e ≠ 11 ∧ nl' = nl) := by
  -- here and in `spec_afterPoll_cases`, `kcases` takes apart a field of the reviewed `Spec.routine k`, a ladder of `if`s
  -- like a kernel (the `with` list unfolds it), not a kernel of `Munge.Gen.Fd`
  cases k <;> kcases Routine.afterIo with [Spec.routine, Spec.afterIoR, Spec.afterIoW] <;> cases h <;> simp <;> omega

theorem spec_afterPoll_cases {k : Kind} {nfd e rev c e' : Int} (h : (Spec.routine k).afterPoll nfd e rev = (c, e')) :
    (c = 0 → 0 < nfd ∧ e' = e) ∧
    (c = 1 → nfd < 0 ∧ (e = 4 ∨ e = 11) ∧ e' = e) ∧
    (c = 2 → (nfd = 0 ∧ e' = 110) ∨ (0 < nfd ∧ e' = e ∧ k ≠ .readN)) ∧
    (c ≠ 0 → c ≠ 1 → c ≠ 2 → (nfd < 0 ∧ e ≠ 4 ∧ e ≠ 11 ∧ e' = e) ∨ (0 < nfd ∧ (e' = 9 ∨ e' = 5))) := by
  cases k <;> kcases Routine.afterPoll with [Spec.routine, Spec.afterPollR, Spec.afterPollW] <;> cases h <;> simp <;> omega

/-- the last call was a poll that timed out -/
def TimedOut (t : List Call) : Prop := ∃ m sl, t.getLast? = some (Call.poll m 0 sl)

theorem timedOut_poll {t : List Call} {m nfd sl : Int} : TimedOut (t ++ [Call.poll m nfd sl]) ↔ nfd = 0 := by
  simp [TimedOut]

theorem not_timedOut_io (t : List Call) (g : Int) : ¬TimedOut (t ++ [Call.io g]) := by simp [TimedOut]

/-- invariant of the continuing states: errno is not ETIMEDOUT (110) and the last call is not a poll that timed out -/
def Ctl (s : St) : Prop := s.errno ≠ 110 ∧ ¬TimedOut s.trace

/-- what every result satisfies: unless the fuel ran out it is -1 with a real error (neither EINTR, 4, nor EAGAIN, 11) or
    the count `n - nleft`, with ETIMEDOUT only while bytes are left; after a poll that timed out it is the latter -/
def CtlDone (k : Kind) (cfg : Cfg) (x : Result) : Prop :=
  (x.diverged = false →
    (x.ret = -1 ∧ x.errno ≠ 4 ∧ x.errno ≠ 11) ∨
    (x.ret = Spec.ret (total (Spec.routine k) cfg) x.st.nleft ∧ (x.errno = 110 → 0 < x.st.nleft))) ∧
  (TimedOut x.st.trace → x.ret = Spec.ret (total (Spec.routine k) cfg) x.st.nleft ∧ x.errno = 110 ∧ 0 < x.st.nleft)

/-- `return -1` with a real error -/
theorem CtlDone.error {k : Kind} {cfg : Cfg} {e : Int} {s : St} (he : e ≠ 4 ∧ e ≠ 11) (ht : ¬TimedOut s.trace) :
    CtlDone k cfg { ret := -1, errno := e, st := s } :=
  ⟨fun _ => .inl ⟨rfl, he⟩, fun t => absurd t ht⟩

/-- `return n - nleft` -/
theorem CtlDone.count {k : Kind} {cfg : Cfg} {s : St} (h : s.errno = 110 ∨ TimedOut s.trace → s.errno = 110 ∧ 0 < s.nleft) :
    CtlDone k cfg (finish (Spec.routine k) cfg s) :=
  have hr : (finish (Spec.routine k) cfg s).ret = Spec.ret (total (Spec.routine k) cfg) s.nleft := by rw [finish, spec_ret]
  ⟨fun _ => .inr ⟨hr, fun e => (h (.inl e)).2⟩, fun t => ⟨hr, h (.inr t)⟩⟩

theorem Ctl.count {k : Kind} {cfg : Cfg} {s : St} (h : Ctl s) : CtlDone k cfg (finish (Spec.routine k) cfg s) :=
  .count fun h' => h'.elim (absurd · h.1) (absurd · h.2)

theorem ctl_ioPhase (k : Kind) (cfg : Cfg) (m : Int) (s : St) (h : Ctl s) :
    (ioPhase (Spec.routine k) cfg m s).sat Ctl (CtlDone k cfg) := by
  refine ioPhase_elim fun nio e s1 c nl' hio hd => ?_
  obtain ⟨hc0, hc1, hc2, hc3⟩ := spec_afterIo_cases hd
  have he := (doIo_spec hio).1
  have h1 := h.1
  -- short of `return -1` the last call is the I/O call, and errno is that at entry (a transfer) or EINTR / EAGAIN (a retry)
  have hctl : e ≠ 110 → ∀ s', s'.errno = e → s'.trace = s1.trace ++ [Call.io nio] → Ctl s' :=
    fun h110 s' he' ht => ⟨he' ▸ h110, ht ▸ not_timedOut_io _ _⟩
  refine ⟨fun c0 _ => hctl ?_ _ rfl rfl, fun c0 _ => hctl ?_ _ rfl rfl, fun c1 => hctl ?_ _ rfl rfl,
    fun c2 => (hctl ?_ _ rfl rfl).count, fun c0 c1 c2 => .error ?_ (not_timedOut_io _ _)⟩
  · have := hc0 c0; omega
  · have := hc0 c0; omega
  · have := hc1 c1; omega
  · have := hc2 c2; omega
  · have := hc3 c0 c1 c2; omega

theorem ctl_step (k : Kind) (cfg : Cfg) (s : St) (h : Ctl s) :
    (step (Spec.routine k) cfg s).sat Ctl (CtlDone k cfg) := by
  refine step_elim (fun _ => h.count) (fun hc c e' hd => ?_)
  obtain ⟨hc0, hc1, hc2, hc3⟩ := spec_afterPoll_cases hd
  have hpe := (pollRes_spec (Spec.routine k) cfg s).1
  have hnl := spec_cond_pos hc
  have h1 := h.1
  have hpd : (postPoll (Spec.routine k) cfg s).errno = e' := congrArg Prod.snd hd
  have hpt : TimedOut (postPoll (Spec.routine k) cfg s).trace ↔ (pollRes (Spec.routine k) cfg s).nfd = 0 := timedOut_poll
  have hpn := (postPoll_frame (Spec.routine k) cfg s).nleft
  refine ⟨fun c0 => ctl_ioPhase k cfg _ _ ?_, fun c1 => ?_, fun c2 => .count ?_, fun c0 c1 c2 => .error ?_ ?_⟩
  · have := hc0 c0; show _ ≠ 110 ∧ ¬TimedOut _; rw [hpd, hpt]; omega
  · have := hc1 c1; show _ ≠ 110 ∧ ¬TimedOut _; rw [hpd, hpt]; omega
  -- `break`: a poll that timed out (nfd = 0) sets ETIMEDOUT, and the loop condition has just held; POLLHUP leaves errno
  · have := hc2 c2; rw [hpd, hpt, hpn]; omega
  · have := hc3 c0 c1 c2; omega
  · have := hc3 c0 c1 c2; rw [hpt]; omega

theorem ctl_run (k : Kind) (cfg : Cfg) (pq : List PollEv) (iq : List IoEv) :
    CtlDone k cfg (run (Spec.routine k) cfg pq iq) := by
  apply run_sat (P := fun _ => Ctl) (Q := CtlDone k cfg)
  · simp [Ctl, TimedOut, init]
  · intro g e hg hg0
    obtain ⟨rfl, rfl⟩ := spec_guard hg hg0
    exact .error (by decide) (by simp [TimedOut, init])
  · exact fun m h => ctl_ioPhase k cfg m _ h
  · exact fun _ s h => ctl_step k cfg s h
  · exact fun s h => ⟨nofun, fun t => absurd t h.2⟩

def isPollB : Call → Bool
  | .poll _ _ _ => true
  | _ => false
def isIoB : Call → Bool
  | .io _ => true
  | _ => false
def isGetB : Call → Bool
  | .gettime _ => true
  | _ => false
def npolls (t : List Call) : Nat := (t.filter isPollB).length
def nios (t : List Call) : Nat := (t.filter isIoB).length
def ngets (t : List Call) : Nat := (t.filter isGetB).length

/-- events left in the script -/
def remaining (s : St) : Nat := s.pollQ.length + s.ioQ.length

/-- events consumed: the script does not grow, and an outcome that continues has consumed an event of it (`s`: the
    state it started from) -/
def Counted (s : St) (o : Outcome) : Prop :=
  remaining o.st ≤ remaining s ∧
  (match o with | .cont s' => remaining s' < remaining s | .done _ => True)

theorem Counted.cont {s s' : St} (h : remaining s' < remaining s) : Counted s (.cont s') := ⟨Nat.le_of_lt h, h⟩

theorem Counted.done {s : St} {x : Result} (h : remaining x.st ≤ remaining s) : Counted s (.done x) := ⟨h, trivial⟩

theorem Counted.mono {s s' : St} {o : Outcome} (h : Counted s' o) (hle : remaining s' ≤ remaining s) : Counted s o := by
  cases o
  · exact .cont (Nat.lt_of_lt_of_le h.2 hle)
  · exact .done (Nat.le_trans h.1 hle)

theorem counted_ioPhase (k : Kind) (cfg : Cfg) (m : Int) (s : St) : Counted s (ioPhase (Spec.routine k) cfg m s) := by
  refine ioPhase_elim fun nio e s1 c nl' hio hd => ?_
  obtain ⟨hc0, hc1, -, -⟩ := spec_afterIo_cases hd
  obtain ⟨-, -, l1, l2⟩ := doIo_spec hio
  have f3 := (doIo_frame hio).pollQ
  have hle : s1.pollQ.length + s1.ioQ.length ≤ remaining s := by rw [f3]; exact Nat.add_le_add_left l1 _
  -- a transfer, and a call that failed with EINTR / EAGAIN, have consumed their event (the script was not exhausted)
  have hlt : 0 ≤ nio ∨ e = 4 ∨ e = 11 → s1.pollQ.length + s1.ioQ.length < remaining s := fun h => by
    rw [f3]; exact Nat.add_lt_add_left (l2 (by simp only [ESCRIPT]; omega)) _
  exact ⟨fun c0 _ => .cont (hlt (.inl (hc0 c0).1)), fun c0 _ => .cont (hlt (.inl (hc0 c0).1)),
    fun c1 => .cont (hlt (.inr (hc1 c1).2.1)), fun _ => .done hle, fun _ _ _ => .done hle⟩

theorem counted_step (k : Kind) (cfg : Cfg) (s : St) : Counted s (step (Spec.routine k) cfg s) := by
  refine step_elim (fun _ => .done (Nat.le_refl _)) (fun _ c e' hd => ?_)
  obtain ⟨-, p1, -, p3⟩ := pollRes_spec (Spec.routine k) cfg s
  have hi := (postPoll_frame (Spec.routine k) cfg s).ioQ
  have hle : remaining (postPoll (Spec.routine k) cfg s) ≤ remaining s := by
    unfold remaining; rw [hi]; exact Nat.add_le_add_right p1 _
  refine ⟨fun _ => (counted_ioPhase k cfg _ _).mono hle, fun c1 => .cont ?_, fun _ => .done hle, fun _ _ _ => .done hle⟩
  -- `continue`: poll failed with EINTR / EAGAIN and has consumed its event (the script was not exhausted)
  obtain ⟨hn, he, -⟩ := (spec_afterPoll_cases hd).2.1 c1
  unfold remaining; rw [hi]; exact Nat.add_lt_add_right (p3 hn (by simp only [ESCRIPT]; omega)) _

theorem ioPhase_done_notdiv (r : Routine) (cfg : Cfg) (m : Int) (s : St) :
    (ioPhase r cfg m s).sat (fun _ => True) (fun x => x.diverged = false) := by
  refine ioPhase_elim fun _ _ _ _ _ _ _ => ⟨?_, ?_, ?_, ?_, ?_⟩ <;> intros <;> trivial

theorem step_done_notdiv (r : Routine) (cfg : Cfg) (s : St) :
    (step r cfg s).sat (fun _ => True) (fun x => x.diverged = false) :=
  step_elim (fun _ => rfl) (fun _ _ _ _ => ⟨fun _ => ioPhase_done_notdiv r cfg _ _, fun _ => trivial, fun _ => rfl, fun _ _ _ => rfl⟩)

/-- the fuel of `run` is never exhausted by a routine whose continuing trips each consume an event of the script -/
theorem run_terminates_of {r : Routine} {cfg : Cfg} (hio : ∀ m s, Counted s (ioPhase r cfg m s))
    (hstep : ∀ s, Counted s (step r cfg s)) (pq : List PollEv) (iq : List IoEv) : (run r cfg pq iq).diverged = false := by
  have hsat : ∀ {s o f}, Counted s o → o.sat (fun _ => True) (fun x => x.diverged = false) → remaining s ≤ f →
      o.sat (fun s' => remaining s' < f) (fun x => x.diverged = false) := by
    intro s o f hc hd hf
    cases o
    · exact Nat.lt_of_lt_of_le hc.2 hf
    · exact hd
  apply run_sat (P := fun f s => remaining s < f) (Q := fun x => x.diverged = false)
  · exact Nat.lt_succ_of_lt (Nat.lt_succ_self _)
  · exact fun _ _ _ _ => rfl
  · exact fun m h => hsat (hio m _) (ioPhase_done_notdiv r cfg m _) (Nat.le_of_lt h)
  · exact fun f s h => hsat (hstep s) (step_done_notdiv r cfg s) (Nat.le_of_lt_succ h)
  · exact fun s h => absurd h (Nat.not_lt_zero _)

theorem run_terminates (k : Kind) (cfg : Cfg) (pq : List PollEv) (iq : List IoEv) :
    (run (Spec.routine k) cfg pq iq).diverged = false :=
  run_terminates_of (counted_ioPhase k cfg) (counted_step k cfg) pq iq

/-- no poll of the trace has a negative timeout, i.e. waits without limit -/
def tmoNonneg (t : List Call) : Prop := ∀ m nfd sl, Call.poll m nfd sl ∈ t → 0 ≤ m

theorem spec_tmo_nonneg {wp : Int} (hw : wp ≠ 0) (ws wu a b : Int) : 0 ≤ (Spec.tmo wp ws wu a b).1 := by
  unfold Spec.tmo; simp only [hw, if_false]; (repeat' split) <;> simp <;> omega

/-- calls counted: polls against the events of the script (`R0`: their number at entry), I/O calls and clock readings
    against polls -/
def Calls (R0 : Nat) (s : St) : Prop :=
  npolls s.trace + remaining s ≤ R0 ∧ nios s.trace ≤ npolls s.trace + 1 ∧ ngets s.trace = npolls s.trace ∧ tmoNonneg s.trace

theorem trip_counts {t t' tl : List Call} {w ms nfd sl : Int} (h : tl = [] ∨ ∃ g, tl = [Call.io g])
    (ht : t' = t ++ [Call.gettime w, Call.poll ms nfd sl] ++ tl) :
    npolls t' = npolls t + 1 ∧ nios t' ≤ nios t + 1 ∧ ngets t' = ngets t + 1 ∧ (tmoNonneg t → 0 ≤ ms → tmoNonneg t') := by
  subst ht
  have h4 : tmoNonneg t → 0 ≤ ms → tmoNonneg (t ++ [Call.gettime w, Call.poll ms nfd sl] ++ tl) := by
    intro h4 h0 m' _ _ hm
    rcases h with rfl | ⟨g, rfl⟩ <;>
      simp only [List.mem_append, List.mem_cons, List.not_mem_nil, or_false, reduceCtorEq, false_or] at hm <;>
      rcases hm with hm | ⟨rfl, -, -⟩ <;> first | exact h4 _ _ _ hm | exact h0
  simp only [npolls, nios, ngets, List.filter_append, List.length_append]
  rcases h with rfl | ⟨g, rfl⟩
  · exact ⟨rfl, Nat.le_succ _, rfl, h4⟩
  · exact ⟨rfl, Nat.le_refl _, rfl, h4⟩

theorem calls_of_counted {R0 : Nat} {s : St} {o : Outcome} (hs : npolls s.trace + remaining s ≤ R0) (hc : Counted s o)
    (hp : npolls o.st.trace ≤ npolls s.trace + 1)
    (h : nios o.st.trace ≤ npolls o.st.trace + 1 ∧ ngets o.st.trace = npolls o.st.trace ∧ tmoNonneg o.st.trace) :
    o.sat (Calls R0) (fun x => Calls (R0 + 1) x.st) := by
  cases o with
  | cont s' => exact ⟨by have := hc.2; simp only [Outcome.st] at hp this; omega, h⟩
  | done x => exact ⟨by have := hc.1; simp only [Outcome.st] at hp this; omega, h⟩

theorem calls_run (k : Kind) (cfg : Cfg) (pq : List PollEv) (iq : List IoEv)
    (hw : cfg.whenP ≠ 0) (hz : ¬(cfg.ws = 0 ∧ cfg.wu = 0)) :
    Calls (pq.length + iq.length + 1) (run (Spec.routine k) cfg pq iq).st := by
  apply run_sat (P := fun _ => Calls (pq.length + iq.length)) (Q := fun x => Calls (pq.length + iq.length + 1) x.st)
  · simp [Calls, init, npolls, nios, ngets, remaining, tmoNonneg]
  · intro g e _ _; simp [Calls, init, npolls, nios, ngets, remaining, tmoNonneg]
  · intro m _
    obtain ⟨g, f⟩ := ioPhase_frame (Spec.routine k) cfg m (init (Spec.routine k) cfg pq iq)
    refine calls_of_counted (by simp [init, npolls, remaining]) (counted_ioPhase k cfg m _) ?_ ?_ <;> rw [f.trace]
    · exact Nat.le_succ 0
    · exact ⟨Nat.le_refl 1, rfl, by simp [init, tmoNonneg]⟩
  · intro _ s ⟨h1, h2, h3, h4⟩
    rcases step_env (Spec.routine k) cfg s with h | ⟨tl, htl, f⟩
    · rw [h]; exact ⟨by simp only [finish]; omega, h2, h3, h4⟩
    · have hm0 : 0 ≤ pollMsecs (Spec.routine k) cfg s := by unfold pollMsecs; rw [spec_tmo]; exact spec_tmo_nonneg hw _ _ _ _
      obtain ⟨a1, a2, a3, a4⟩ := trip_counts htl ((postPoll_reads s (spec_tmo k) hw hz).2.2 ▸ f.trace)
      exact calls_of_counted h1 (counted_step k cfg s) (by omega) ⟨by omega, by omega, a4 h4 hm0⟩
  · intro s ⟨h1, h2⟩; exact ⟨by simp only [divergedAt]; omega, h2⟩

theorem read_xfer (data : List UInt8) (N P m : Nat) (hPd : P ≤ data.length) :
    (data.take P ++ List.replicate (N - P) (0 : UInt8)).take P ++ (data.drop P).take m ++
      (data.take P ++ List.replicate (N - P) (0 : UInt8)).drop (P + m) =
    data.take (P + m) ++ List.replicate (N - (P + m)) 0 := by
  have hl : (data.take P).length = P := by rw [List.length_take]; omega
  rw [List.take_left' hl, List.drop_append, hl]
  rw [List.drop_of_length_le (by omega : (data.take P).length ≤ P + m)]
  rw [List.nil_append, List.drop_replicate, ← List.take_add]
  congr 2; omega

/-- bytes the (remaining) iovec designates, in order -/
def flatAll (arena : List UInt8) (iov : List (Int × Int)) : List UInt8 :=
  (iov.map (fun e => (arena.drop e.1.toNat).take e.2.toNat)).flatten

/-- every element lies inside the arena (offset and length non-negative) -/
def IovWF (arena : List UInt8) (iov : List (Int × Int)) : Prop :=
  ∀ e ∈ iov, 0 ≤ e.1 ∧ 0 ≤ e.2 ∧ e.1 + e.2 ≤ arena.length

theorem IovWF_cons {arena : List UInt8} {b l : Int} {rest : List (Int × Int)} :
    IovWF arena ((b, l) :: rest) ↔ (0 ≤ b ∧ 0 ≤ l ∧ b + l ≤ arena.length) ∧ IovWF arena rest := by
  simp [IovWF]

theorem flatAll_cons (arena : List UInt8) (b l : Int) (rest : List (Int × Int)) :
    flatAll arena ((b, l) :: rest) = (arena.drop b.toNat).take l.toNat ++ flatAll arena rest := rfl

theorem piece_length {arena : List UInt8} {b l : Int} (h0 : 0 ≤ b) (h1 : 0 ≤ l) (h2 : b + l ≤ arena.length) :
    ((arena.drop b.toNat).take l.toNat).length = l.toNat := by
  rw [List.length_take, List.length_drop]; omega

theorem flatAll_length (arena : List UInt8) : ∀ iov, IovWF arena iov → (flatAll arena iov).length = iovTotal iov
  | [], _ => by simp [flatAll, iovTotal]
  | (b, l) :: rest, h => by
    obtain ⟨hh, h'⟩ := IovWF_cons.mp h
    rw [flatAll_cons, List.length_append, piece_length hh.1 hh.2.1 hh.2.2, flatAll_length arena rest h']
    simp [iovTotal]

theorem gather_zero (arena : List UInt8) : ∀ iov, gather arena iov 0 = []
  | [] => by simp [gather]
  | (b, l) :: rest => by simp [gather, gather_zero arena rest]

theorem gather_eq_take (arena : List UInt8) : ∀ iov m, IovWF arena iov → gather arena iov m = (flatAll arena iov).take m
  | [], m, _ => by simp [gather, flatAll]
  | (b, l) :: rest, m, h => by
    obtain ⟨hh, h'⟩ := IovWF_cons.mp h
    simp only [gather, gather_eq_take arena rest (m - min m l.toNat) h']
    rw [flatAll_cons, List.take_append, piece_length hh.1 hh.2.1 hh.2.2, List.take_take]
    congr 2
    omega

theorem adv_zero (cnt : Int) : ∀ iov i, iovAdvance (Spec.routine .writeIov) cnt i iov 0 = iov
  | [], i => by simp [iovAdvance]
  | (b, l) :: rest, i => by simp [iovAdvance, Spec.routine, Spec.advCond]

/-- the body of the advance loop for counts within `ssize_t`: take `min nw l` bytes from the element (`continue` on an empty one) -/
theorem advBody_eq {nw l : Int} (h0 : 0 < nw) (hn : nw < 9223372036854775808) (hl0 : 0 ≤ l) (hl : l < 9223372036854775808) :
    Spec.advBody nw l = if nw ≤ l then (0, nw, 0, l - nw) else (if l = 0 then 1 else 0, l, nw - l, 0) := by
  unfold Spec.advBody Spec.advTake
  rw [wrapU64_id (x := nw) (by omega) (by omega)]
  (repeat' split) <;> simp only [wrapS64, wrapU64, Prod.mk.injEq, true_and] <;> omega

theorem adv_cons (cnt i b l nw : Int) (rest : List (Int × Int)) (hi : i < cnt) (h0 : 0 < nw) (hn : nw < 9223372036854775808)
    (hl0 : 0 ≤ l) (hl : l < 9223372036854775808) :
    iovAdvance (Spec.routine .writeIov) cnt i ((b, l) :: rest) nw =
      (if nw ≤ l then (b + nw, l - nw) :: rest
       else (b + l, 0) :: iovAdvance (Spec.routine .writeIov) cnt (i + 1) rest (nw - l)) := by
  have hz := adv_zero cnt rest (i + 1)
  simp only [Spec.routine] at hz
  simp only [iovAdvance, Spec.routine, Spec.advCond, hi, h0, and_self, if_true, advBody_eq h0 hn hl0 hl, Gen.Fd.CONT]
  by_cases h1 : nw ≤ l
  · simp [h1, hz]
  · by_cases h2 : l = 0
    · subst h2; simp [h1]
    · simp [h1, h2]

/-- advancing the private iovec copy after a short write of `nw` bytes drops exactly the first `nw` designated bytes -/
theorem adv_flat (arena : List UInt8) (cnt : Int) (iov : List (Int × Int)) : ∀ (i nw : Int),
    IovWF arena iov → (iovTotal iov : Int) < 9223372036854775808 → i + iov.length = cnt → 0 ≤ nw → nw ≤ iovTotal iov →
    flatAll arena (iovAdvance (Spec.routine .writeIov) cnt i iov nw) = (flatAll arena iov).drop nw.toNat ∧
    IovWF arena (iovAdvance (Spec.routine .writeIov) cnt i iov nw) ∧
    (iovAdvance (Spec.routine .writeIov) cnt i iov nw).length = iov.length := by
  induction iov with
  | nil => intro i nw _ _ _ _ _; simp [iovAdvance, flatAll, IovWF]
  | cons e rest ih =>
    obtain ⟨b, l⟩ := e
    intro i nw hwf ha hi h0 hn
    obtain ⟨hh, hwf'⟩ := IovWF_cons.mp hwf
    have hp := piece_length hh.1 hh.2.1 hh.2.2
    simp only [List.length_cons] at hi
    have htot : iovTotal ((b, l) :: rest) = l.toNat + iovTotal rest := by simp [iovTotal]
    by_cases hz : nw = 0
    · subst hz; rw [adv_zero]; exact ⟨by simp, hwf, rfl⟩
    · have hfl := flatAll_length arena rest hwf'
      rw [adv_cons cnt i b l nw rest (by omega) (by omega) (by omega) hh.2.1 (by omega)]
      by_cases h1 : nw ≤ l
      · simp only [h1, if_true]
        refine ⟨?_, IovWF_cons.mpr ⟨by omega, hwf'⟩, rfl⟩
        · rw [flatAll_cons, flatAll_cons, List.drop_append, hp, List.drop_take, List.drop_drop, Int.toNat_add hh.1 h0,
            Int.toNat_sub'' hh.2.1 h0, show nw.toNat - l.toNat = 0 by omega, List.drop_zero]
      · simp only [h1, if_false]
        obtain ⟨ih1, ih2, ih3⟩ := ih (i + 1) (nw - l) hwf' (by omega) (by omega) (by omega) (by omega)
        refine ⟨?_, IovWF_cons.mpr ⟨by omega, ih2⟩, by simp [ih3]⟩
        · rw [flatAll_cons, flatAll_cons, ih1, List.drop_append, hp]
          rw [List.drop_of_length_le (by omega : ((arena.drop b.toNat).take l.toNat).length ≤ nw.toNat)]
          simp only [Int.toNat_zero, List.take_zero, Int.toNat_sub'' h0 hh.2.1]

theorem iovOf_spec (arena : List UInt8) : ∀ (chunks : List (List UInt8)) (pre : List UInt8) (off : Int),
    off = pre.length → arena = pre ++ chunks.flatten →
    flatAll arena (iovOf chunks off) = chunks.flatten ∧ IovWF arena (iovOf chunks off) ∧ (iovOf chunks off).length = chunks.length
  | [], pre, _, _, _ => by simp [iovOf, flatAll, IovWF]
  | c :: cs, pre, _, rfl, h => by
    obtain ⟨i1, i2, i3⟩ := iovOf_spec arena cs (pre ++ c) (pre.length + c.length) (by simp) (by simp [h])
    refine ⟨?_, IovWF_cons.mpr ⟨by rw [h]; simp; omega, i2⟩, by simp [iovOf, i3]⟩
    · rw [iovOf, flatAll_cons, i1]
      simp only [Int.toNat_natCast]
      rw [h, List.drop_left' rfl, List.flatten_cons, List.take_left' rfl]

/-- holds of every state, continuing or final: the `N - nleft` bytes transferred are the first `N - nleft` of the stream /
    of the user data, in order -/
def DataF (k : Kind) (cfg : Cfg) (s : St) : Prop :=
  0 ≤ s.nleft ∧ s.nleft ≤ total (Spec.routine k) cfg ∧
  match k with
  | .readN => total (Spec.routine k) cfg - s.nleft ≤ cfg.data.length ∧
      s.src = cfg.data.drop (total (Spec.routine k) cfg - s.nleft).toNat ∧
      s.buf = cfg.data.take (total (Spec.routine k) cfg - s.nleft).toNat ++
        List.replicate ((total (Spec.routine k) cfg).toNat - (total (Spec.routine k) cfg - s.nleft).toNat) 0
  | .writeN => s.buf = cfg.data ∧ s.sink = cfg.data.take (total (Spec.routine k) cfg - s.nleft).toNat
  | .writeIov => s.buf = cfg.chunks.flatten ∧ s.sink = cfg.chunks.flatten.take (total (Spec.routine k) cfg - s.nleft).toNat

/-- additionally, at the loop head the cursor agrees with the count -/
def DataC (k : Kind) (cfg : Cfg) (s : St) : Prop :=
  DataF k cfg s ∧
  match k with
  | .writeIov => IovWF s.buf s.iov ∧ (s.iov.length : Int) = cfg.chunks.length ∧
      flatAll s.buf s.iov = s.buf.drop (total (Spec.routine k) cfg - s.nleft).toNat ∧ (iovTotal s.iov : Int) = s.nleft
  | _ => s.p = total (Spec.routine k) cfg - s.nleft

/-- the byte count is an `ssize_t`, and `fd_timed_write_n` is handed at least that many bytes -/
def Pre (k : Kind) (cfg : Cfg) : Prop :=
  0 ≤ total (Spec.routine k) cfg ∧ total (Spec.routine k) cfg < 9223372036854775808 ∧
  (k = .writeN → total (Spec.routine k) cfg ≤ cfg.data.length)

theorem doIo_nil (k : Kind) (s : St) (h : s.ioQ = []) : doIo k s = (-1, ESCRIPT, s) := by
  unfold doIo; rw [h]
theorem doIo_fail (k : Kind) (s : St) (e : Int) (q : List IoEv) (h : s.ioQ = .fail e :: q) :
    doIo k s = (-1, e, { s with ioQ := q }) := by
  unfold doIo; rw [h]
theorem doIo_read (s : St) (kk : Nat) (q : List IoEv) (h : s.ioQ = .xfer kk :: q) :
    doIo .readN s = (((min kk (min s.nleft.toNat s.src.length) : Nat) : Int), s.errno,
      { s with ioQ := q, src := s.src.drop (min kk (min s.nleft.toNat s.src.length)),
               buf := s.buf.take s.p.toNat ++ s.src.take (min kk (min s.nleft.toNat s.src.length)) ++
                 s.buf.drop (s.p.toNat + min kk (min s.nleft.toNat s.src.length)) }) := by
  unfold doIo; rw [h]
theorem doIo_write (s : St) (kk : Nat) (q : List IoEv) (h : s.ioQ = .xfer kk :: q) :
    doIo .writeN s = (((min kk s.nleft.toNat : Nat) : Int), s.errno,
      { s with ioQ := q, sink := s.sink ++ (s.buf.drop s.p.toNat).take (min kk s.nleft.toNat) }) := by
  unfold doIo; rw [h]
theorem doIo_iov (s : St) (kk : Nat) (q : List IoEv) (h : s.ioQ = .xfer kk :: q) :
    doIo .writeIov s = (((min kk (iovTotal s.iov) : Nat) : Int), s.errno,
      { s with ioQ := q, sink := s.sink ++ gather s.buf s.iov (min kk (iovTotal s.iov)) }) := by
  unfold doIo; rw [h]

theorem total_iov (cfg : Cfg) : total (Spec.routine .writeIov) cfg = (cfg.chunks.flatten.length : Int) := by
  simp only [total, Spec.routine]
  induction cfg.chunks with
  | nil => simp
  | cons c cs ih => simp [ih]

theorem DataC_congr {k : Kind} {cfg : Cfg} {s s' : St} (h1 : s'.nleft = s.nleft) (h2 : s'.p = s.p) (h3 : s'.iov = s.iov)
    (h4 : s'.src = s.src) (h5 : s'.buf = s.buf) (h6 : s'.sink = s.sink) (h : DataC k cfg s) : DataC k cfg s' := by
  cases s'; subst h1 h2 h3 h4 h5 h6; exact h

theorem ret_eq_sub {N nl : Int} (h0 : 0 ≤ nl) (h1 : nl ≤ N) (h2 : N < 9223372036854775808) : Spec.ret N nl = N - nl := by
  simp only [Spec.ret, wrapS64, wrapU64]; omega

theorem toNat_sub_sub {N nl : Int} (m : Nat) (h : nl ≤ N) : (N - (nl - m)).toNat = (N - nl).toNat + m := by omega

/-- After a transfer `DataF` holds once the count is reduced (the state a `break` returns from), `DataC` once the cursor
    has been advanced as well. -/
theorem doIo_data (k : Kind) (cfg : Cfg) (s : St) (hpre : Pre k cfg) (h : DataC k cfg s) {nio e : Int} {s1 : St}
    (hio : doIo k s = (nio, e, s1)) :
    (nio < 0 → DataC k cfg s1) ∧
    (0 ≤ nio → nio ≤ s.nleft ∧ DataF k cfg { s1 with nleft := s.nleft - nio } ∧
      (k = .writeIov → DataC k cfg { s1 with
        nleft := s.nleft - nio, iov := iovAdvance (Spec.routine k) (cfg.chunks.length : Nat) 0 s1.iov nio }) ∧
      (k ≠ .writeIov → DataC k cfg { s1 with nleft := s.nleft - nio, p := s1.p + nio })) := by
  refine ⟨fun hn => ?_, fun h0 => ?_⟩
  · obtain ⟨g1, g2, g3⟩ := (doIo_spec hio).2.1 hn
    have f := doIo_frame hio
    exact DataC_congr f.nleft f.p f.iov g1 g2 g3 h
  obtain ⟨kk, q, hq⟩ := ((doIo_spec hio).1 h0).2
  cases k
  · rw [doIo_read _ _ _ hq] at hio
    cases hio
    obtain ⟨⟨h0, h1, h2, h3, h4⟩, h5⟩ := h
    obtain ⟨p0, p1, -⟩ := hpre
    simp only [total, Spec.routine] at h0 h1 h2 h3 h4 h5 p0 p1
    -- the `toNat` and `min` terms become variables: the list identities are about those, `omega` keeps their equations
    generalize hP : (cfg.n - s.nleft).toNat = P at h3 h4
    have hsl : s.src.length = cfg.data.length - P := by rw [h3]; simp
    generalize hm : min kk (min s.nleft.toNat s.src.length) = mm
    have hm1 : (mm : Int) ≤ s.nleft ∧ P + mm ≤ cfg.data.length := by omega
    clear hm hsl
    generalize hN : cfg.n.toNat = Nn at h4
    have hbuf := read_xfer cfg.data Nn P mm (by omega)
    rw [← h4, ← h3] at hbuf
    suffices hF : DataF .readN cfg _ from ⟨hm1.1, hF, nofun, fun _ => ⟨hF, by simp only [total, Spec.routine]; omega⟩⟩
    simp only [DataF, total, Spec.routine, hN, toNat_sub_sub mm h1, hP, show s.p.toNat = P from h5 ▸ hP]
    exact ⟨by omega, by omega, by omega, by rw [h3, List.drop_drop], hbuf⟩
  · rw [doIo_write _ _ _ hq] at hio
    cases hio
    obtain ⟨⟨h0, h1, h3, h4⟩, h5⟩ := h
    obtain ⟨p0, p1, p2⟩ := hpre
    simp only [total, Spec.routine] at h0 h1 h3 h4 h5 p0 p1 p2
    generalize hP : (cfg.n - s.nleft).toNat = P at h4
    generalize hm : min kk s.nleft.toNat = mm
    suffices hF : DataF .writeN cfg _ from ⟨by omega, hF, nofun, fun _ => ⟨hF, by simp only [total, Spec.routine]; omega⟩⟩
    simp only [DataF, total, Spec.routine, toNat_sub_sub mm h1, hP, show s.p.toNat = P from h5 ▸ hP]
    exact ⟨by omega, by omega, h3, by rw [h4, h3, ← List.take_add]⟩
  · rw [doIo_iov _ _ _ hq] at hio
    cases hio
    obtain ⟨⟨h0, h1, h3, h4⟩, h5, h6, h7, h8⟩ := h
    obtain ⟨p0, p1, -⟩ := hpre
    rw [total_iov] at h1 h4 h7 p0 p1
    generalize hP : ((cfg.chunks.flatten.length : Int) - s.nleft).toNat = P at h4 h7
    generalize hm : min kk (iovTotal s.iov) = mm
    have hP' := toNat_sub_sub mm h1
    rw [hP] at hP'
    suffices hF : DataF .writeIov cfg _ from ⟨by omega, hF, fun _ => ⟨hF, ?_⟩, fun h => absurd rfl h⟩
    · obtain ⟨a1, a2, a3⟩ := adv_flat s.buf ((cfg.chunks.length : Nat) : Int) s.iov 0 mm h5 (by omega) (by omega) (by omega) (by omega)
      rw [Int.toNat_natCast, h7, List.drop_drop] at a1
      simp only [total_iov, hP']
      refine ⟨a2, by rw [a3]; exact h6, a1, ?_⟩
      have := flatAll_length s.buf _ a2
      rw [a1, List.length_drop, h3] at this
      omega
    · simp only [DataF, total_iov, hP']
      exact ⟨by omega, by omega, h3, by rw [gather_eq_take _ _ _ h5, h7, h4, h3, ← List.take_add]⟩

theorem data_ioPhase (k : Kind) (cfg : Cfg) (m : Int) (s : St) (hpre : Pre k cfg) (h : DataC k cfg s) :
    (ioPhase (Spec.routine k) cfg m s).sat (DataC k cfg) (fun x => DataF k cfg x.st) := by
  refine ioPhase_elim fun nio e s1 c nl' hio hd => ?_
  rw [spec_kind] at hio ⊢
  obtain ⟨hc0, hc1, hc2, hc3⟩ := spec_afterIo_cases hd
  obtain ⟨hneg, hpos⟩ := doIo_data k cfg s hpre h hio
  have f5 := (doIo_frame hio).nleft
  have hN := hpre.2.1
  have n1 := h.1.2.1
  -- the count after a transfer is `nleft - nio` (no wrap, since `0 ≤ nio ≤ nleft`)
  have hsub : 0 ≤ nio → nl' = wrapU64 (s.nleft - wrapU64 nio) → nl' = s.nleft - nio := fun h0 hw => by
    simp only [wrapU64] at hw; omega
  refine ⟨fun c0 hi => ?_, fun c0 hi => ?_, fun c1 => ?_, fun c2 => ?_, fun c0 c1 c2 => ?_⟩
  · obtain ⟨h0, -, -, hw⟩ := hc0 c0
    rw [hsub h0 hw]; exact (hpos h0).2.2.1 hi
  · obtain ⟨h0, -, -, hw⟩ := hc0 c0
    rw [hsub h0 hw]; exact (hpos h0).2.2.2 hi
  · obtain ⟨hn, -, rfl⟩ := hc1 c1
    rw [← f5]; exact hneg hn
  -- `break` at end-of-file is a transfer of 0 bytes
  · have h0 : 0 ≤ nio := by omega
    obtain rfl : nl' = s.nleft - nio := by
      rcases hc2 c2 with ⟨rfl, -, rfl⟩ | ⟨-, -, -, hw⟩
      · exact (Int.sub_zero _).symm
      · exact hsub h0 hw
    exact (hpos h0).2.1
  · exact (hneg (hc3 c0 c1 c2).1).1

theorem data_step (k : Kind) (cfg : Cfg) (s : St) (hpre : Pre k cfg) (h : DataC k cfg s) :
    (step (Spec.routine k) cfg s).sat (DataC k cfg) (fun x => DataF k cfg x.st) := by
  have g := postPoll_frame (Spec.routine k) cfg s
  have hpp : DataC k cfg (postPoll (Spec.routine k) cfg s) := DataC_congr g.nleft g.p g.iov g.src g.buf g.sink h
  exact step_elim (fun _ => h.1) (fun _ _ _ _ => ⟨fun _ => data_ioPhase k cfg _ _ hpre hpp, fun _ => hpp, fun _ => hpp.1, fun _ _ _ => hpp.1⟩)

theorem data_init (k : Kind) (cfg : Cfg) (pq : List PollEv) (iq : List IoEv) (hpre : Pre k cfg) :
    DataC k cfg (init (Spec.routine k) cfg pq iq) := by
  obtain ⟨p0, p1, p2⟩ := hpre
  cases k
  case writeIov =>
    rw [total_iov] at p0 p1
    obtain ⟨i1, i2, i3⟩ := iovOf_spec cfg.chunks.flatten cfg.chunks [] 0 rfl rfl
    have hl := flatAll_length _ _ i2
    rw [i1] at hl
    simp only [DataC, DataF, init, total_iov]
    exact ⟨⟨by omega, by omega, rfl, by simp⟩, i2, by rw [i3], by rw [Int.sub_self]; exact i1, by omega⟩
  all_goals
    simp only [total, Spec.routine] at p0 p1
    simp only [DataC, DataF, init, total, Spec.routine]
    simp; omega

theorem data_run (k : Kind) (cfg : Cfg) (pq : List PollEv) (iq : List IoEv) (hpre : Pre k cfg) :
    DataF k cfg (run (Spec.routine k) cfg pq iq).st := by
  have hi := data_init k cfg pq iq hpre
  apply run_sat (P := fun _ => DataC k cfg) (Q := fun x => DataF k cfg x.st)
  · exact hi
  · intro g e _ _
    exact hi.1
  · exact fun m h => data_ioPhase k cfg m _ hpre h
  · exact fun _ s h => data_step k cfg s hpre h
  · exact fun s h => h.1

end Munge.Fd
