import Munge.Model.Retry
import Munge.Lemmas.CredDec
import Munge.Lemmas.CredRound
import Munge.Lemmas.WireCred
/-
The retry model (`Model/Retry.lean`) in four layers, each resting on the one before: what a packet `header ‖ body` is
to the two `m_msg_recv`s (daemon: `recvMsg`, client: `clientRecv`); what one attempt comes to under each fault; what
one round of the loop does (`xferLoop_cons`) and the three inductions over schedules built on it (range, exhaustion,
survival); and the daemon's answers to libmunge's own decode and encode requests, which instantiate survival.
-/
namespace Munge.Retry
open Munge.Cred Munge.C Munge.Gen.Retry

-- the simp set is written for every form the generator may give the exit tests (`!`-forms too), so part of it goes unused
set_option linter.unusedSimpArgs false in
theorem stop_iff (i e : Int) : stop i e = true ↔ (i ≥ 5 ∨ e = 3) := by
  unfold stop stopTests
  simp only [List.any, Bool.or_false, Bool.or_eq_true, decide_eq_true_eq, Bool.not_eq_true', decide_eq_false_iff_not] <;> omega

theorem linkRetries_send : linkRetries "m_msg_send" = true := by decide
theorem linkRetries_recv : linkRetries "m_msg_recv" = true := by decide

/-- the roll-back of `dec_process_msg` fires exactly for a successful request that itself inserted -/
theorem genRollback_spec (rc : Int) (ins : Bool) : genRollback rc ins = (decide (rc = 0) && ins) := by
  unfold genRollback
  by_cases h : rc = 0
  · subst h; cases ins <;> decide
  · rw [if_neg h, if_neg h, decide_eq_false h]; cases ins <;> decide

theorem daemon_eq_jobExec (P : Prims) (cf : Conf) (env : Env) (rs : ReplaySet) (req : Bytes) (s : Bool) :
    daemon P cf env rs req s = jobExec P cf env rs req s := by
  unfold daemon jobExec
  cases recvMsg req with
  | drop w | enc m => rfl
  | dec m =>
    simp only [genRollback_spec]
    cases s
    · simp only [Bool.false_eq_true, if_false, Bool.and_eq_true, decide_eq_true_eq]
      congr 1
    · rfl

theorem prefix_short (t r : Nat) (body : Bytes) (hb : body.length < 4294967296) (k : Nat)
    (hk : k < (hdrBytes t r body.length ++ body).length) :
    ((hdrBytes t r body.length ++ body).take k).length < 11 ∨
    ((hdrBytes t r body.length ++ body).take k).length <
      11 + rd32 ((((hdrBytes t r body.length ++ body).take k).drop 7).take 4) := by
  rw [List.length_append, hdrBytes_length] at hk
  by_cases h11 : k < 11
  · exact .inl (by rw [List.length_take]; omega)
  · -- a whole header followed by a short body: the header still declares `body.length`
    rw [List.take_append, hdrBytes_length, List.take_of_length_le (by rw [hdrBytes_length]; omega),
      (hdr_fields t r body.length (body.take (k - 11)) hb).2.2.2.2.2.1, List.length_append, hdrBytes_length, List.length_take]
    exact .inr (by omega)

theorem recvMsg_short (s : Bytes) (h : s.length < 11 ∨ s.length < 11 + hLen s) : ∃ w, recvMsg s = .drop w :=
  recvMsg_of_not_hdrOk fun ⟨h1, _, _, _, h5⟩ => by rw [List.length_take, List.length_drop] at h5; omega

theorem clientRecv_short (expect : Nat) (s : Bytes) (h : s.length < 11 ∨ s.length < 11 + rd32 ((s.drop 7).take 4)) :
    clientRecv expect s = .error EMUNGE_SOCKET := by
  unfold clientRecv
  rw [show MUNGE_MSG_HDR_SIZE.toNat = 11 from rfl]
  iterate 4 refine iteInduction (motive := (· = Except.error EMUNGE_SOCKET)) (fun _ => rfl) fun _ => ?_
  rw [if_neg (by unfold recvMaxLen; omega), if_pos (by rw [List.length_take, List.length_drop]; omega)]

theorem recvMsg_packet (t r : Nat) (body : Bytes) (ht : t < 256) (hr : r < 256) (hb : body.length ≤ 1048576) :
    recvMsg (hdrBytes t r body.length ++ body) =
      if t = 2 then recvEncBody r body else if t = 4 then recvDecBody r body
      else if t = 1 then recvHdrBody body else .drop "type" := by
  obtain ⟨f1, f2, f3, f4, f5, f6, f7⟩ := hdr_fields t r body.length body (by omega)
  rw [recvMsg_eq]
  unfold hMagic hVer hType hRetry hLen
  simp only [f1, f2, f3, f4, f5, f6, f7, UInt8.toNat_ofNat_of_lt' ht, UInt8.toNat_ofNat_of_lt' hr, List.take_length]
  rw [if_neg (by omega), if_neg (fun h => h rfl), if_neg (fun h => h (by decide)),
    if_neg (by unfold Munge.Gen.Dec.MUNGE_MAXIMUM_REQ_LEN; omega), if_neg (by omega)]

theorem clientRecv_packet (t r : Nat) (body : Bytes) (ht : t < 256) (hr : r < 256) (hb : body.length < 4294967296) :
    clientRecv t (hdrBytes t r body.length ++ body) =
      match clientUnpack t r body with
      | none => .error EMUNGE_SOCKET
      | some m => .ok m := by
  obtain ⟨f1, f2, f3, f4, f5, f6, f7⟩ := hdr_fields t r body.length body hb
  have e11 : MUNGE_MSG_HDR_SIZE.toNat = 11 := rfl
  unfold clientRecv
  simp only [f1, f2, f3, f4, f5, f6, f7, e11, UInt8.toNat_ofNat_of_lt' ht, UInt8.toNat_ofNat_of_lt' hr]
  rw [if_neg (by omega), if_neg (fun h => h rfl), if_neg (fun h => h (by decide)), if_neg (fun h => h rfl),
    if_neg (by unfold recvMaxLen; omega), if_neg (by rw [List.take_length]; omega), List.take_length]
  cases clientUnpack t r body <;> rfl

theorem clientUnpack_enc {retry : Nat} {en el : UInt8} {estr data tail : Bytes} {dl : Nat}
    (he : estr.length = el.toNat) (hd : data.length = dl) (hdl : dl < 2147483648) :
    clientUnpack 3 retry (en :: el :: (estr ++ (be32 dl ++ (data ++ tail)))) =
    some { type := 3, retry := retry, errorNum := en.toNat, dataLen := dl, data := data } := by
  have e3 : MUNGE_MSG_ENC_RSP.toNat = 3 := rfl
  unfold clientUnpack
  simp only [takeField_append estr _ el.toNat he (by have := el.toNat_lt; omega), e3, if_true]
  rw [if_neg (by rw [List.length_append, C.be32_length]; omega), take_be32_append, drop_be32_append,
    rd32_be32 _ (show dl < 4294967296 by omega)]
  simp only [takeField_append data tail dl hd hdl]

theorem clientUnpack_dec {retry : Nat} {en el c mc z rl al : UInt8} {estr realm addr data tail : Bytes}
    {ttl t0 t1 cu cg au ag dl : Nat}
    (he : estr.length = el.toNat) (hr : realm.length = rl.toNat) (ha : addr.length = al.toNat) (ha4 : al.toNat ≤ 4)
    (hd : data.length = dl) (hdl : dl < 2147483648)
    (h1 : ttl < 4294967296) (h2 : t0 < 4294967296) (h3 : t1 < 4294967296) (h4 : cu < 4294967296) (h5 : cg < 4294967296)
    (h6 : au < 4294967296) (h7 : ag < 4294967296) :
    clientUnpack 5 retry (en :: el :: (estr ++ c :: mc :: z :: rl :: (realm ++ (be32 ttl ++ al :: (addr ++ (be32 t0 ++
      (be32 t1 ++ (be32 cu ++ (be32 cg ++ (be32 au ++ (be32 ag ++ (be32 dl ++ (data ++ tail))))))))))))) =
    some { type := 5, retry := retry, errorNum := en.toNat, cipher := c.toNat, mac := mc.toNat, zip := z.toNat,
           realmLen := rl.toNat, realm := realm, ttl := ttl, addrLen := al.toNat,
           addr := addr ++ List.replicate (4 - addr.length) 0, time0 := t0, time1 := t1, credUid := cu, credGid := cg,
           authUid := au, authGid := ag, dataLen := dl, data := data } := by
  have e5 : MUNGE_MSG_DEC_RSP.toNat = 5 := rfl
  have e3 : MUNGE_MSG_ENC_RSP.toNat = 3 := rfl
  have e4 : ADDR_SIZE = 4 := rfl
  unfold clientUnpack
  simp only [takeField_append estr _ el.toNat he (by have := el.toNat_lt; omega), e5, e3, show ¬ (5 = 3) by decide, if_false, if_true,
    takeField_append realm _ rl.toNat hr (by have := rl.toNat_lt; omega)]
  rw [if_neg (by rw [List.length_append, C.be32_length]; omega)]
  simp only [take_be32_append, drop_be32_append, e4]
  rw [if_neg (by omega)]
  simp only [takeField_append addr _ al.toNat ha (by omega)]
  rw [if_neg (by simp only [List.length_append, C.be32_length]; omega)]
  simp only [take_be32_append, drop_be32_add, List.drop_zero, rd32_be32 _ h1, rd32_be32 _ h2, rd32_be32 _ h3,
    rd32_be32 _ h4, rd32_be32 _ h5, rd32_be32 _ h6, rd32_be32 _ h7, rd32_be32 _ (show dl < 4294967296 by omega),
    takeField_append data tail dl hd hdl]
  rfl

theorem errWire_shape (m : Msg) : ∃ el estr, errWire m = el :: estr ∧ estr.length = el.toNat :=
  ⟨_, (WireCred.errBytes m).take (WireCred.errLen m), WireCred.errWire_eq m,
    by rw [List.length_take_of_le (WireCred.errLen_le m), UInt8.toNat_ofNat_of_lt' (WireCred.errLen_lt m)]⟩

/-- the fields of a reply message are representable on the wire -/
structure RspOk (m : Msg) : Prop where
  retry : m.retry < 256
  err : m.errorNum < 256
  small : m.cipher < 256 ∧ m.mac < 256 ∧ m.zip < 256 ∧ m.realmLen < 256 ∧ m.addrLen ≤ 4
  realm : m.realmLen ≤ m.realm.length
  addr : m.addrLen ≤ m.addr.length
  u32 : m.ttl < 4294967296 ∧ m.time0 < 4294967296 ∧ m.time1 < 4294967296 ∧ m.credUid < 4294967296 ∧
        m.credGid < 4294967296 ∧ m.authUid < 4294967296 ∧ m.authGid < 4294967296
  data : m.dataLen ≤ m.data.length ∧ m.dataLen < 2147483648

/-- what `m_msg_recv` + `_msg_unpack` make of the DEC_RSP for `m` -/
def decView (m : Msg) : Msg :=
  { type := 5, retry := m.retry, errorNum := m.errorNum, cipher := m.cipher, mac := m.mac, zip := m.zip,
    realmLen := m.realmLen, realm := m.realm.take m.realmLen, ttl := m.ttl, addrLen := m.addrLen,
    addr := m.addr.take m.addrLen ++ List.replicate (4 - (m.addr.take m.addrLen).length) 0,
    time0 := m.time0, time1 := m.time1, credUid := m.credUid, credGid := m.credGid, authUid := m.authUid,
    authGid := m.authGid, dataLen := m.dataLen, data := m.data.take m.dataLen }

/-- the payload `_decode_rsp` hands libmunge's caller, for a reply whose declared length is that of its payload -/
theorem decodeRsp_decView_data (m : Msg) (h : m.dataLen = m.data.length) :
    (decodeRsp (decView m)).data = if m.dataLen > 0 then some m.data else none := by
  show (if m.dataLen > 0 then some (m.data.take m.dataLen) else none) = _
  rw [h, List.take_length]

/-- replies stay below the 4 GiB a header can declare -/
theorem decRsp_length_lt (m : Msg) (h : RspOk m) : (decRsp m).length < 4294967296 + 11 := by
  obtain ⟨el, estr, he, hl⟩ := errWire_shape m
  have := el.toNat_lt
  have := h.small
  have := h.data.2
  have := List.length_take_le m.realmLen m.realm
  have := List.length_take_le m.addrLen m.addr
  have := List.length_take_le m.dataLen m.data
  unfold decRsp
  rw [he]
  simp only [List.length_cons, List.length_append, C.be32_length, List.length_nil, hdrBytes_length]
  omega

theorem clientRecv_decRsp (m : Msg) (h : RspOk m) : clientRecv 5 (decRsp m) = .ok (decView m) := by
  obtain ⟨el, estr, he, hl⟩ := errWire_shape m
  obtain ⟨s1, s2, s3, s4, s5⟩ := h.small
  obtain ⟨u1, u2, u3, u4, u5, u6, u7⟩ := h.u32
  have s5' : m.addrLen < 256 := by omega
  have hfit := decRsp_length_lt m h
  unfold decRsp at hfit ⊢
  rw [List.length_append, hdrBytes_length] at hfit
  rw [clientRecv_packet 5 m.retry _ (by omega) h.retry (by omega), he]
  -- the body as `decRsp` builds it, brought to the right-nested form `clientUnpack_dec` is stated for
  simp only [List.append_assoc, List.cons_append, List.nil_append]
  rw [← List.append_nil (m.data.take m.dataLen), clientUnpack_dec hl
    (by rw [List.length_take_of_le h.realm, UInt8.toNat_ofNat_of_lt' s4]) (by rw [List.length_take_of_le h.addr, UInt8.toNat_ofNat_of_lt' s5'])
    (by rw [UInt8.toNat_ofNat_of_lt' s5']; exact s5) (List.length_take_of_le h.data.1) h.data.2 u1 u2 u3 u4 u5 u6 u7]
  simp only [UInt8.toNat_ofNat_of_lt' h.err, UInt8.toNat_ofNat_of_lt' s1, UInt8.toNat_ofNat_of_lt' s2, UInt8.toNat_ofNat_of_lt' s3,
    UInt8.toNat_ofNat_of_lt' s4, UInt8.toNat_ofNat_of_lt' s5']
  rfl

/-- what `m_msg_recv` + `_msg_unpack` make of the ENC_RSP for `m` -/
def encView (m : Msg) : Msg :=
  { type := 3, retry := m.retry, errorNum := m.errorNum, dataLen := m.dataLen, data := m.data.take m.dataLen }

theorem encRsp_length_lt (m : Msg) (h : m.dataLen < 2147483648) : (encRsp m).length < 4294967296 + 11 := by
  obtain ⟨el, estr, he, hl⟩ := errWire_shape m
  have := el.toNat_lt
  have := List.length_take_le m.dataLen m.data
  unfold encRsp
  rw [he]
  simp only [List.length_cons, List.length_append, C.be32_length, List.length_nil, hdrBytes_length]
  omega

theorem clientRecv_encRsp (m : Msg) (hr : m.retry < 256) (he : m.errorNum < 256)
    (hd : m.dataLen ≤ m.data.length ∧ m.dataLen < 2147483648) : clientRecv 3 (encRsp m) = .ok (encView m) := by
  obtain ⟨el, estr, hw, hl⟩ := errWire_shape m
  have hfit := encRsp_length_lt m hd.2
  unfold encRsp at hfit ⊢
  rw [List.length_append, hdrBytes_length] at hfit
  rw [clientRecv_packet 3 m.retry _ (by omega) hr (by omega), hw]
  simp only [List.append_assoc, List.cons_append, List.nil_append]
  rw [← List.append_nil (m.data.take m.dataLen), clientUnpack_enc hl (List.length_take_of_le hd.1) hd.2]
  simp only [UInt8.toNat_ofNat_of_lt' he]
  rfl

/-- the DEC_REQ the daemon unpacks from libmunge's request for the credential string `cred` -/
def decReqMsg (r : Nat) (cred : Bytes) : Msg := { type := 4, retry := r, dataLen := cred.length, data := cred }

theorem recvMsg_decReq (r : Nat) (cred : Bytes) (hr : r < 256) (hc : (decBody cred).length ≤ 1048576) :
    recvMsg (reqBytes 4 r (decBody cred)) = .dec (decReqMsg r cred) := by
  have hbl : (decBody cred).length = cred.length + 4 := by
    unfold decBody; rw [List.length_append, C.be32_length]; omega
  unfold reqBytes
  rw [recvMsg_packet 4 r _ (by omega) hr hc, if_neg (by decide), if_pos rfl]
  unfold recvDecBody
  rw [if_neg (by omega)]
  unfold decBody
  rw [take_be32_append, drop_be32_append, rd32_be32 _ (by omega)]
  dsimp only
  rw [takeField_all cred _ rfl (by omega)]
  rfl

/-- the ENC_REQ the daemon unpacks from libmunge's request built from the ctx options and payload in `m` -/
def encReqMsg (r : Nat) (m : Msg) : Msg :=
  { type := 2, retry := r, cipher := m.cipher, mac := m.mac, zip := m.zip, realmLen := m.realmLen,
    realm := m.realm.take m.realmLen, ttl := m.ttl, authUid := m.authUid, authGid := m.authGid,
    dataLen := m.dataLen, data := m.data.take m.dataLen }

/-- the ctx options and the payload are representable on the wire -/
structure CallOk (m : Msg) : Prop where
  small : m.cipher < 256 ∧ m.mac < 256 ∧ m.zip < 256 ∧ m.realmLen < 256
  realm : m.realmLen ≤ m.realm.length
  u32 : m.ttl < 4294967296 ∧ m.authUid < 4294967296 ∧ m.authGid < 4294967296
  data : m.dataLen ≤ m.data.length
  fits : (encBody m).length ≤ 1048576

theorem recvMsg_encReq (r : Nat) (m : Msg) (hr : r < 256) (h : CallOk m) :
    recvMsg (reqBytes 2 r (encBody m)) = .enc (encReqMsg r m) := by
  obtain ⟨s1, s2, s3, s4⟩ := h.small
  obtain ⟨u1, u2, u3⟩ := h.u32
  have lr : (m.realm.take m.realmLen).length = m.realmLen := List.length_take_of_le h.realm
  have ld : (m.data.take m.dataLen).length = m.dataLen := List.length_take_of_le h.data
  have hfit := h.fits
  unfold reqBytes
  rw [recvMsg_packet 2 r _ (by omega) hr hfit, if_pos rfl]
  unfold encBody at hfit ⊢
  simp only [List.length_append, List.length_cons, List.length_nil, C.be32_length, lr, ld] at hfit
  unfold recvEncBody
  simp only [List.append_assoc, List.cons_append, List.nil_append,
    takeField_append (m.realm.take m.realmLen) _ (UInt8.ofNat m.realmLen).toNat (by rw [lr, UInt8.toNat_ofNat_of_lt' s4])
      (by rw [UInt8.toNat_ofNat_of_lt' s4]; omega)]
  rw [if_neg (by simp only [List.length_append, C.be32_length]; omega)]
  simp only [take_be32_append, drop_be32_add, List.drop_zero]
  rw [if_neg (by simp only [List.length_append, C.be32_length]; omega)]
  simp only [rd32_be32 _ u1, rd32_be32 _ u2, rd32_be32 _ u3,
    rd32_be32 _ (show m.dataLen < 4294967296 by omega), takeField_all _ _ ld (show m.dataLen < 2147483648 by omega),
    UInt8.toNat_ofNat_of_lt' s1, UInt8.toNat_ofNat_of_lt' s2, UInt8.toNat_ofNat_of_lt' s3, UInt8.toNat_ofNat_of_lt' s4]
  rfl

theorem daemon_prefix (P : Prims) (cf : Conf) (env : Env) (rs : ReplaySet) (t r : Nat) (body : Bytes) (s : Bool)
    (hb : body.length ≤ 1048576) (k : Nat) (hk : k < (reqBytes t r body).length) :
    daemon P cf env rs ((reqBytes t r body).take k) s = (none, rs) := by
  obtain ⟨w, hw⟩ := recvMsg_short _ (prefix_short t r body (by omega) k hk)
  unfold daemon reqBytes
  rw [hw]

theorem daemon_dec_true (P : Prims) (cf : Conf) (env : Env) (rs : ReplaySet) (req : Bytes) (m : Msg)
    (h : recvMsg req = .dec m) :
    daemon P cf env rs req true = (some (decRsp (decProcess P cf env rs m).msg), (decProcess P cf env rs m).replay) := by
  unfold daemon; rw [h]; rfl

theorem daemon_enc (P : Prims) (cf : Conf) (env : Env) (rs : ReplaySet) (req : Bytes) (m : Msg) (s : Bool)
    (h : recvMsg req = .enc m) :
    daemon P cf env rs req s = (if s then some (encRsp (encProcess P cf env m).1) else none, rs) := by
  unfold daemon; rw [h]

theorem daemon_undeliverable (P : Prims) (cf : Conf) (env : Env) (rs : ReplaySet) (req : Bytes) :
    daemon P cf env rs req false = (none, rs) := by
  rw [daemon_eq_jobExec, jobExec_undelivered]

theorem gate_open (body : Bytes) (hb : body.length ≤ 1048576) : ¬ (sendMaxLen > 0 ∧ (body.length : Int) > sendMaxLen) := by
  unfold sendMaxLen; omega

/- The four branches of `attempt` behind the send gate, as equations: a definitional step that reduces a projection of
   `attempt` next to `(daemon ..).2` sends the kernel into `daemon` on symbolic bytes (see `finish_rs`). -/
theorem attempt_q (P : Prims) (cf : Conf) (env : Env) (rs : ReplaySet) (type r : Nat) (body : Bytes) (n : Nat)
    (hb : body.length ≤ 1048576) :
    attempt P cf env rs type r body (.q n) =
      { err := EMUNGE_SOCKET, link := "m_msg_send", rsp := none,
        rs := (daemon P cf env rs ((reqBytes type r body).take (min n ((reqBytes type r body).length - 1))) false).2,
        delivered := min n ((reqBytes type r body).length - 1) } := by
  unfold attempt; rw [if_neg (gate_open body hb)]

theorem attempt_f (P : Prims) (cf : Conf) (env : Env) (rs : ReplaySet) (type r : Nat) (body : Bytes)
    (hb : body.length ≤ 1048576) :
    attempt P cf env rs type r body .f =
      { err := EMUNGE_SOCKET, link := "m_msg_recv", rsp := none, rs := (daemon P cf env rs (reqBytes type r body) false).2,
        delivered := (reqBytes type r body).length } := by
  unfold attempt; rw [if_neg (gate_open body hb)]

theorem attempt_p (P : Prims) (cf : Conf) (env : Env) (rs : ReplaySet) (type r : Nat) (body : Bytes) (n : Nat)
    (hb : body.length ≤ 1048576) :
    attempt P cf env rs type r body (.p n) =
      finish type (daemon P cf env rs (reqBytes type r body) true).2
        (cutReply n (daemon P cf env rs (reqBytes type r body) true).1) (reqBytes type r body).length := by
  unfold attempt; rw [if_neg (gate_open body hb)]

theorem attempt_ok (P : Prims) (cf : Conf) (env : Env) (rs : ReplaySet) (type r : Nat) (body : Bytes)
    (hb : body.length ≤ 1048576) :
    attempt P cf env rs type r body .ok =
      finish type (daemon P cf env rs (reqBytes type r body) true).2
        ((daemon P cf env rs (reqBytes type r body) true).1.getD []) (reqBytes type r body).length := by
  unfold attempt; rw [if_neg (gate_open body hb)]

theorem finish_error (type : Nat) (rs : ReplaySet) (got : Bytes) (d : Nat) (e : Int)
    (h : clientRecv (rspType type) got = .error e) :
    finish type rs got d = { err := e, link := "m_msg_recv", rsp := none, rs := rs, delivered := d } := by
  unfold finish; rw [h]

theorem finish_ok (type : Nat) (rs : ReplaySet) (got : Bytes) (d : Nat) (m : Msg)
    (h : clientRecv (rspType type) got = .ok m) :
    finish type rs got d = { err := EMUNGE_SUCCESS, link := "", rsp := some m, rs := rs, delivered := d } := by
  unfold finish; rw [h]

/-- Rewrite with this where the state is `(daemon ..).2`: closing `{ .., rs := (daemon ..).2, .. }.rs = (daemon ..).2` by
    `rfl` makes the kernel unfold `daemon` on symbolic bytes (deep recursion). -/
theorem finish_rs (type : Nat) (rs : ReplaySet) (got : Bytes) (d : Nat) : (finish type rs got d).rs = rs := by
  unfold finish; split <;> rfl

theorem clientRecv_err (expect : Nat) (s : Bytes) (e : Int) (h : clientRecv expect s = .error e) :
    e = EMUNGE_SOCKET ∨ e = EMUNGE_BAD_LENGTH := by
  revert h
  unfold clientRecv
  iterate 6 refine iteInduction (motive := (· = Except.error e → _)) (fun _ h => by cases h; decide) fun _ => ?_
  cases clientUnpack _ _ _ <;> intro h <;> cases h
  decide

/-- an attempt never yields the model's out-of-schedule value -/
theorem attempt_err_ne (P : Prims) (cf : Conf) (env : Env) (rs : ReplaySet) (type r : Nat) (body : Bytes) (ft : Fault) :
    (attempt P cf env rs type r body ft).err ≠ -1 := by
  have hfin : ∀ rs got d, (finish type rs got d).err ≠ -1 := by
    intro rs got d
    cases h : clientRecv (rspType type) got with
    | error e =>
      rw [finish_error _ _ _ _ _ h]
      rcases clientRecv_err _ _ _ h with h' | h' <;> (show e ≠ -1; rw [h']; decide)
    | ok m => rw [finish_ok _ _ _ _ _ h]; show EMUNGE_SUCCESS ≠ -1; decide
  unfold attempt
  refine iteInduction (motive := fun a : Attempt => a.err ≠ -1) (fun _ => by show EMUNGE_BAD_LENGTH ≠ -1; decide) fun _ => ?_
  cases ft with
  | q n | f => show EMUNGE_SOCKET ≠ -1; decide
  | p n | ok => exact hfin _ _ _

/-- `hfit`: the model's daemon does not bound its replies, the header's length field does -/
theorem cutReply_fails (P : Prims) (cf : Conf) (env : Env) (rs : ReplaySet) (req : Bytes) (expect n : Nat)
    (hfit : ∀ b, (daemon P cf env rs req true).1 = some b → b.length < 4294967296 + 11) :
    clientRecv expect (cutReply n (daemon P cf env rs req true).1) = .error EMUNGE_SOCKET := by
  rcases (jobExec_reply P cf env rs req true).1 with hd | ⟨t, r, body, _, hd⟩ <;> rw [← daemon_eq_jobExec] at hd
  · rw [hd]
    exact clientRecv_short expect [] (.inl (by decide))
  · have hl := hfit _ hd
    rw [List.length_append, hdrBytes_length] at hl
    rw [hd]
    exact clientRecv_short _ _ (prefix_short t r body (by omega) _ (by rw [List.length_append, hdrBytes_length]; omega))

theorem attempt_faulty (P : Prims) (cf : Conf) (env : Env) (rs : ReplaySet) (type r : Nat) (body : Bytes) (ft : Fault)
    (hb : body.length ≤ 1048576) (hft : ft ≠ .ok)
    (hfit : ∀ b, (daemon P cf env rs (reqBytes type r body) true).1 = some b → b.length < 4294967296 + 11) :
    (attempt P cf env rs type r body ft).err = EMUNGE_SOCKET ∧
    linkRetries (attempt P cf env rs type r body ft).link = true ∧
    ((attempt P cf env rs type r body ft).rs = rs ∨
     (attempt P cf env rs type r body ft).rs = (daemon P cf env rs (reqBytes type r body) true).2) := by
  cases ft with
  | q n => rw [attempt_q _ _ _ _ _ _ _ _ hb, daemon_undeliverable]; exact ⟨rfl, linkRetries_send, .inl rfl⟩
  | f => rw [attempt_f _ _ _ _ _ _ _ hb, daemon_undeliverable]; exact ⟨rfl, linkRetries_recv, .inl rfl⟩
  | ok => exact absurd rfl hft
  | p n =>
    rw [attempt_p _ _ _ _ _ _ _ _ hb]
    refine ⟨?_, ?_, .inr (finish_rs _ _ _ _)⟩ <;> rw [finish_error _ _ _ _ _ (cutReply_fails P cf env rs _ _ n hfit)]
    exact linkRetries_recv

theorem attempt_clean (P : Prims) (cf : Conf) (env : Env) (rs : ReplaySet) (type r : Nat) (body b : Bytes) (m : Msg)
    (hb : body.length ≤ 1048576) (h1 : (daemon P cf env rs (reqBytes type r body) true).1 = some b)
    (h2 : clientRecv (rspType type) b = .ok m) :
    (attempt P cf env rs type r body .ok).err = EMUNGE_SUCCESS ∧ (attempt P cf env rs type r body .ok).rsp = some m ∧
    (attempt P cf env rs type r body .ok).rs = (daemon P cf env rs (reqBytes type r body) true).2 := by
  rw [attempt_ok _ _ _ _ _ _ _ hb, finish_rs, h1, Option.getD_some, finish_ok _ _ _ _ _ h2]
  exact ⟨rfl, rfl, rfl⟩

theorem loopInit_eq : loopInit = 1 := rfl

/-- the attempt counter `i` while the header carries retry byte `r` -/
def iOf (r : Nat) : Int := (r : Int) + 1

theorem xfer_eq (P : Prims) (cf : Conf) (env : Env) (rs : ReplaySet) (type : Nat) (body : Bytes) (sched : List Fault) :
    xfer P cf env rs type body sched =
      xferLoop P cf env type body (sched ++ .ok :: List.replicate 5 .ok) (iOf 0) 0 rs [] [] := rfl

/-- The generated exit tests, counter update and retry assignment are read here and nowhere else. -/
theorem xferLoop_cons (P : Prims) (cf : Conf) (env : Env) (type : Nat) (body : Bytes) (ft : Fault) (rest : List Fault)
    (r : Nat) (hr : r ≤ 4) (rs : ReplaySet) (tr : List (Nat × Nat)) (sl : List Int) :
    xferLoop P cf env type body (ft :: rest) (iOf r) r rs tr sl =
      let a := attempt P cf env rs type r body ft
      if a.err = EMUNGE_SUCCESS then
        { err := EMUNGE_SUCCESS, rsp := a.rsp, rs := a.rs, trace := tr ++ [(r, a.delivered)], sleeps := sl }
      else if linkRetries a.link = true ∧ r < 4 ∧ a.err ≠ EMUNGE_BAD_LENGTH then
        xferLoop P cf env type body rest (iOf (r + 1)) (r + 1) a.rs (tr ++ [(r, a.delivered)]) (sl ++ [sleepMsecs (iOf r) a.err])
      else { err := a.err, rsp := none, rs := a.rs, trace := tr ++ [(r, a.delivered)], sleeps := sl } := by
  have hs : stop (iOf r) (attempt P cf env rs type r body ft).err = true ↔
      ¬ (r < 4 ∧ (attempt P cf env rs type r body ft).err ≠ EMUNGE_BAD_LENGTH) := by
    rw [stop_iff]; unfold iOf EMUNGE_BAD_LENGTH; omega
  have h1 : (retryOf (iOf r) (attempt P cf env rs type r body ft).err r).toNat = r + 1 := by
    unfold retryOf wrapU8 iOf; omega
  rw [xferLoop]
  by_cases h0 : (attempt P cf env rs type r body ft).err = EMUNGE_SUCCESS
  · rw [if_pos h0, if_pos h0]
  rw [if_neg h0, if_neg h0]
  by_cases hl : linkRetries (attempt P cf env rs type r body ft).link = true
  · by_cases hc : r < 4 ∧ (attempt P cf env rs type r body ft).err ≠ EMUNGE_BAD_LENGTH
    · rw [if_neg (fun h => h hl), if_neg (fun h => hs.mp h hc), if_pos ⟨hl, hc⟩, h1]; rfl
    · rw [if_neg (fun h => h hl), if_pos (hs.mpr hc), if_neg (fun h => hc h.2)]
  · rw [if_pos hl, if_neg (fun h => hl h.1)]

/-- at most five attempts, none with a retry byte above 4, and, if the schedule is `long` enough, not the model's
    out-of-schedule value -/
def InRange (long : Prop) (x : XferOut) : Prop :=
  x.trace.length ≤ 5 ∧ (∀ p ∈ x.trace, p.1 ≤ 4) ∧ (long → x.err ≠ -1)

theorem xferLoop_inRange (P : Prims) (cf : Conf) (env : Env) (type : Nat) (body : Bytes) :
    ∀ (sched : List Fault) (r : Nat) (rs : ReplaySet) (tr : List (Nat × Nat)) (sl : List Int),
      r ≤ 4 → tr.length = r → (∀ p ∈ tr, p.1 ≤ 4) →
      InRange (5 ≤ r + sched.length) (xferLoop P cf env type body sched (iOf r) r rs tr sl) := by
  intro sched
  induction sched with
  | nil =>
    intro r rs tr sl hr hl hp
    rw [xferLoop]
    exact ⟨by dsimp only; omega, hp, fun h => absurd h (by rw [List.length_nil]; omega)⟩
  | cons ft sched ih =>
    intro r rs tr sl hr hl hp
    have hp' : ∀ p ∈ tr ++ [(r, (attempt P cf env rs type r body ft).delivered)], p.1 ≤ 4 := by
      intro p hp2
      rcases List.mem_append.mp hp2 with h | h
      · exact hp p h
      · rw [List.mem_singleton.mp h]; exact hr
    have hl' : (tr ++ [(r, (attempt P cf env rs type r body ft).delivered)]).length = r + 1 := by
      rw [List.length_append, hl]; rfl
    have hne := attempt_err_ne P cf env rs type r body ft
    rw [xferLoop_cons _ _ _ _ _ _ _ _ hr]
    refine iteInduction (motive := InRange _) (fun _ => ⟨by dsimp only; omega, hp', fun _ => by dsimp only; decide⟩) fun _ => ?_
    refine iteInduction (motive := InRange _) (fun hc => ?_) (fun _ => ⟨by dsimp only; omega, hp', fun _ => hne⟩)
    have ih' := ih (r + 1) (attempt P cf env rs type r body ft).rs _ (sl ++ [sleepMsecs (iOf r) (attempt P cf env rs type r body ft).err])
      (by omega) hl' hp'
    exact ⟨ih'.1, ih'.2.1, fun hlen => ih'.2.2 (by rw [List.length_cons] at hlen; omega)⟩

theorem xferLoop_exhausted (P : Prims) (cf : Conf) (env : Env) (type : Nat) (body : Bytes) (hb : body.length ≤ 1048576)
    (hfit : ∀ rs r b, (daemon P cf env rs (reqBytes type r body) true).1 = some b → b.length < 4294967296 + 11) :
    ∀ (sched : List Fault) (r k : Nat) (rs : ReplaySet) (tr : List (Nat × Nat)) (sl : List Int),
      r + (k + 1) = 5 → k + 1 ≤ sched.length → (∀ ft ∈ sched.take (k + 1), ft ≠ .ok) →
      (xferLoop P cf env type body sched (iOf r) r rs tr sl).err = EMUNGE_SOCKET ∧
      (xferLoop P cf env type body sched (iOf r) r rs tr sl).rsp = none ∧
      (xferLoop P cf env type body sched (iOf r) r rs tr sl).trace.length = tr.length + (k + 1) := by
  intro sched
  induction sched with
  | nil => intro r k rs tr sl _ hlen _; cases hlen
  | cons ft sched ih =>
    intro r k rs tr sl hr hlen hno
    obtain ⟨h1, h2, _⟩ := attempt_faulty P cf env rs type r body ft hb (hno ft List.mem_cons_self) (hfit rs r)
    rw [xferLoop_cons _ _ _ _ _ _ _ _ (by omega)]
    dsimp only
    rw [h1, if_neg (by decide)]
    cases k with
    | zero =>
      rw [if_neg (fun h => by omega)]
      exact ⟨rfl, rfl, List.length_append⟩
    | succ k =>
      rw [if_pos ⟨h2, by omega, by decide⟩]
      have ih' := ih (r + 1) k (attempt P cf env rs type r body ft).rs (tr ++ [(r, (attempt P cf env rs type r body ft).delivered)])
        (sl ++ [sleepMsecs (iOf r) EMUNGE_SOCKET]) (by omega) (Nat.le_of_succ_le_succ hlen)
        (fun x hx => hno x (List.mem_cons_of_mem _ hx))
      refine ⟨ih'.1, ih'.2.1, ?_⟩
      rw [ih'.2.2, List.length_append, List.length_singleton]
      omega

/-- the transfer ends in success with a reply, and reply and daemon state are `Good` -/
def Succeeds (Good : Msg → ReplaySet → Prop) (x : XferOut) : Prop :=
  x.err = EMUNGE_SUCCESS ∧ ∃ m, x.rsp = some m ∧ Good m x.rs

/-- `Inv r rs`: the daemon state before the attempt that carries retry byte `r`; `Good m rs`: the reply the caller is
    entitled to, and the daemon state that goes with it.  `Inv (r + 1)` is asked of the state before and after the
    transaction: a faulty attempt leaves the daemon in one or the other (`attempt_faulty`). -/
theorem xfer_survives (P : Prims) (cf : Conf) (env : Env) (type : Nat) (body : Bytes) (hb : body.length ≤ 1048576)
    (Inv : Nat → ReplaySet → Prop) (Good : Msg → ReplaySet → Prop)
    (h : ∀ r rs, r ≤ 4 → Inv r rs → ∃ b m,
      (daemon P cf env rs (reqBytes type r body) true).1 = some b ∧ b.length < 4294967296 + 11 ∧
      clientRecv (rspType type) b = .ok m ∧ Good m (daemon P cf env rs (reqBytes type r body) true).2 ∧
      Inv (r + 1) rs ∧ Inv (r + 1) (daemon P cf env rs (reqBytes type r body) true).2)
    (rs : ReplaySet) (h0 : Inv 0 rs) (sched : List Fault) (hlen : sched.length ≤ 4) :
    Succeeds Good (xfer P cf env rs type body sched) := by
  have clean : ∀ rest r rs tr sl, r ≤ 4 → Inv r rs →
      Succeeds Good (xferLoop P cf env type body (.ok :: rest) (iOf r) r rs tr sl) := by
    intro rest r rs tr sl hr hi
    obtain ⟨b, m, h1, _, h3, h4, _⟩ := h r rs hr hi
    obtain ⟨a1, a2, a3⟩ := attempt_clean P cf env rs type r body b m hb h1 h3
    have h4' : Good m (attempt P cf env rs type r body .ok).rs := by rw [a3]; exact h4
    rw [xferLoop_cons _ _ _ _ _ _ _ _ hr]
    rw [if_pos a1]
    exact ⟨rfl, m, a2, h4'⟩
  have loop : ∀ (sched rest : List Fault) (r : Nat) (rs : ReplaySet) (tr : List (Nat × Nat)) (sl : List Int),
      sched.length + r ≤ 4 → Inv r rs →
      Succeeds Good (xferLoop P cf env type body (sched ++ .ok :: rest) (iOf r) r rs tr sl) := by
    intro sched
    induction sched with
    | nil => intro rest r rs tr sl hlen hi; exact clean rest r rs tr sl (by simpa using hlen) hi
    | cons ft sched ih =>
      intro rest r rs tr sl hlen hi
      simp only [List.length_cons] at hlen
      by_cases hft : ft = .ok
      · subst hft; exact clean _ r rs tr sl (by omega) hi
      obtain ⟨b, m, h1, h2, _, _, h5, h6⟩ := h r rs (by omega) hi
      obtain ⟨e1, e2, e3⟩ := attempt_faulty P cf env rs type r body ft hb hft (fun b' hb' => by rw [h1] at hb'; cases hb'; exact h2)
      rw [List.cons_append, xferLoop_cons _ _ _ _ _ _ _ _ (by omega)]
      dsimp only
      rw [e1, if_neg (by decide), if_pos ⟨e2, by omega, by decide⟩]
      exact ih rest (r + 1) _ _ _ (by omega) (by rcases e3 with e | e <;> rw [e] <;> assumption)
  rw [xfer_eq]
  exact loop sched _ 0 rs [] [] (by omega) h0

theorem mungeDecode_ok (P : Prims) (cf : Conf) (env : Env) (rs : ReplaySet) (cred : Bytes) (sched : List Fault) (m : Msg)
    (h1 : (xfer P cf env rs 4 (decBody cred) sched).err = EMUNGE_SUCCESS)
    (h3 : (xfer P cf env rs 4 (decBody cred) sched).rsp = some m) (ht : m.type = 5) :
    mungeDecode P cf env rs cred sched = (decodeRsp m, xfer P cf env rs 4 (decBody cred) sched) := by
  unfold mungeDecode
  rw [show MUNGE_MSG_DEC_REQ.toNat = 4 from rfl]
  simp only [h1, h3, ne_eq, not_true_eq_false, if_false]
  rw [if_neg (by rw [ht]; decide)]

theorem mungeDecode_fail (P : Prims) (cf : Conf) (env : Env) (rs : ReplaySet) (cred : Bytes) (sched : List Fault)
    (h1 : (xfer P cf env rs 4 (decBody cred) sched).err ≠ EMUNGE_SUCCESS) :
    mungeDecode P cf env rs cred sched =
      ({ err := (xfer P cf env rs 4 (decBody cred) sched).err }, xfer P cf env rs 4 (decBody cred) sched) := by
  unfold mungeDecode
  rw [show MUNGE_MSG_DEC_REQ.toNat = 4 from rfl]
  rw [if_pos h1]

theorem mungeEncode_ok (P : Prims) (cf : Conf) (env : Env) (rs : ReplaySet) (c : Msg) (sched : List Fault) (m : Msg)
    (h1 : (xfer P cf env rs 2 (encBody c) sched).err = EMUNGE_SUCCESS)
    (h3 : (xfer P cf env rs 2 (encBody c) sched).rsp = some m) (ht : m.type = 3) (hd : m.dataLen ≠ 0) :
    mungeEncode P cf env rs c sched = ({ err := m.errorNum, cred := some m.data }, xfer P cf env rs 2 (encBody c) sched) := by
  unfold mungeEncode
  rw [show MUNGE_MSG_ENC_REQ.toNat = 2 from rfl]
  simp only [h1, h3, ne_eq, not_true_eq_false, if_false]
  rw [if_neg (by rw [ht]; decide), if_neg hd]

theorem mungeEncode_fail (P : Prims) (cf : Conf) (env : Env) (rs : ReplaySet) (c : Msg) (sched : List Fault)
    (h1 : (xfer P cf env rs 2 (encBody c) sched).err ≠ EMUNGE_SUCCESS) :
    mungeEncode P cf env rs c sched =
      ({ err := (xfer P cf env rs 2 (encBody c) sched).err, cred := none }, xfer P cf env rs 2 (encBody c) sched) := by
  unfold mungeEncode
  rw [show MUNGE_MSG_ENC_REQ.toNat = 2 from rfl]
  rw [if_pos h1]

section Decode
open Munge.Cred.B Munge.Gen.Dec Munge.SpecV3

/-- what `decode_emit_valid` asks of the credential `f`, the decoding client and the daemon, and what the retries add
    (`retries`, `fits`) -/
structure DecSetup (P : Prims) (cf : Conf) (env : Env) (f : Fields) (uid gid : Nat) : Prop where
  laws : PrimLaws P
  wf : WF P f
  peer : env.peer = some (uid, gid)
  id : uid < 4294967296 ∧ gid < 4294967296
  maxTtl : 1 ≤ cf.maxTtl ∧ cf.maxTtl ≤ MUNGE_MAXIMUM_TTL
  now : 0 ≤ env.now ∧ env.now < 4294967296
  auth : (f.authUid = UID_ANY ∨ f.authUid = uid ∨ (cf.gotRootAuth = true ∧ uid = 0)) ∧
         (f.authGid = GID_ANY ∨ f.authGid = gid ∨ env.member uid f.authGid = true)
  win : let ttl' : Int := if (f.ttl : Int) > cf.maxTtl then cf.maxTtl else f.ttl
        let sk : Int := if cf.gotClockSkew then ttl' else 1
        sk ≤ f.time0 ∧ f.time0 + ttl' < 4294967296 ∧ (f.time0 : Int) - sk ≤ env.now ∧ env.now ≤ f.time0 + ttl'
  retries : cf.gotSocketRetry = true
  fits : (emit P cf.macKey cf.dekKey f ++ [0]).length + 4 ≤ 1048576

/-- the credential string libmunge passes: the armored credential and its NUL -/
def credOf (P : Prims) (cf : Conf) (f : Fields) : Bytes := emit P cf.macKey cf.dekKey f ++ [0]

/-- the reply message of a successful decode of `f` to a request carrying retry byte `r` -/
def okMsg (P : Prims) (cf : Conf) (env : Env) (f : Fields) (uid gid r : Nat) : Msg :=
  decodedMsg cf env (decReqMsg r (credOf P cf f)) uid gid f

theorem okMsg_RspOk (P : Prims) (cf : Conf) (env : Env) (f : Fields) (uid gid r : Nat) (S : DecSetup P cf env f uid gid)
    (hr : r ≤ 5) : RspOk (okMsg P cf env f uid gid r) := by
  have hnow : (wrapU32 env.now).toNat < 4294967296 := by have := S.now; unfold wrapU32; omega
  have hal : f.addr.length ≤ 4 ∧ f.addr.length ≤ (if f.addr.length = 4 then f.addr else [0, 0, 0, 0]).length := by
    rcases S.wf.addr_len with h | h
    · rw [if_pos h]; exact ⟨Nat.le_of_eq h, Nat.le_refl _⟩
    · rw [if_neg (by omega), h]; exact ⟨by decide, by decide⟩
  obtain ⟨r1, r2, r3, r4, r5, r6, r7, r8, r9, r10⟩ := S.wf.ranges
  have hcap : capT cf f.ttl < 4294967296 := by
    have h := S.maxTtl
    unfold MUNGE_MAXIMUM_TTL at h
    have := capT_cast cf f.ttl (by omega)
    split at this <;> omega
  have hrealm : (okMsg P cf env f uid gid r).realmLen < 256 ∧
      (okMsg P cf env f uid gid r).realmLen ≤ (okMsg P cf env f uid gid r).realm.length := by
    show (if f.realm.length > 0 then (f.realm.length + 1) % 256 else f.realm.length) < 256 ∧
      (if f.realm.length > 0 then (f.realm.length + 1) % 256 else f.realm.length) ≤
        (if f.realm.length > 0 then f.realm ++ [0] else []).length
    by_cases c : f.realm.length > 0
    · rw [if_pos c, if_pos c, List.length_append]; exact ⟨Nat.mod_lt _ (by decide), Nat.mod_le _ _⟩
    · rw [if_neg c, if_neg c]; exact ⟨Nat.lt_trans S.wf.realm_len (by decide), Nat.le_of_not_lt c⟩
  exact ⟨Nat.lt_of_le_of_lt hr (by decide), (by decide : 0 < 256), ⟨r1, r2, r3, hrealm.1, hal.1⟩, hrealm.2, hal.2,
    ⟨hcap, r4, hnow, r6, r7, r8, r9⟩, Nat.le_refl _, Nat.lt_of_le_of_lt r10 (by decide)⟩

theorem credOf_fits (P : Prims) (cf : Conf) (env : Env) (f : Fields) (uid gid : Nat) (S : DecSetup P cf env f uid gid) :
    (decBody (credOf P cf f)).length ≤ 1048576 := by
  have := S.fits
  unfold decBody credOf
  rw [List.length_append, C.be32_length]; omega

theorem dec_daemon (P : Prims) (cf : Conf) (env : Env) (f : Fields) (uid gid : Nat) (S : DecSetup P cf env f uid gid)
    (rs rs' : ReplaySet) (hk : specKey P cf f ∉ rs) (r : Nat) (hr : r ≤ 5)
    (hinv : rs' = rs ∨ (rs' = specKey P cf f :: rs ∧ 1 ≤ r)) :
    daemon P cf env rs' (reqBytes 4 r (decBody (credOf P cf f))) true =
      (some (decRsp (okMsg P cf env f uid gid r)), specKey P cf f :: rs) := by
  have hd : (decReqMsg r (credOf P cf f)).data.take (decReqMsg r (credOf P cf f)).dataLen =
      emit P cf.macKey cf.dekKey f ++ [0] := List.take_length
  rw [daemon_dec_true _ _ _ _ _ _ (recvMsg_decReq r (credOf P cf f) (by omega) (credOf_fits P cf env f uid gid S)),
    decode_emit_valid P S.laws cf env rs' f S.wf uid gid S.peer S.id S.maxTtl S.now S.auth S.win
      (decReqMsg r (credOf P cf f)) [0] (by decide) hd hr rfl]
  rw [decReplay_eq, replayKey_decoded]
  rcases hinv with h | ⟨h, h1⟩ <;> rw [h]
  · rw [if_pos hk]
    rfl
  · rw [if_neg (not_not_intro List.mem_cons_self), if_pos ⟨S.retries, h1, hr⟩]
    rfl

theorem decode_xfer (P : Prims) (cf : Conf) (env : Env) (f : Fields) (uid gid : Nat) (S : DecSetup P cf env f uid gid)
    (rs : ReplaySet) (hk : specKey P cf f ∉ rs) (sched : List Fault) (hlen : sched.length ≤ 4) :
    (xfer P cf env rs 4 (decBody (credOf P cf f)) sched).err = Munge.Gen.Retry.EMUNGE_SUCCESS ∧
    (xfer P cf env rs 4 (decBody (credOf P cf f)) sched).rs = specKey P cf f :: rs ∧
    ∃ r, r ≤ 4 ∧ (xfer P cf env rs 4 (decBody (credOf P cf f)) sched).rsp = some (decView (okMsg P cf env f uid gid r)) := by
  obtain ⟨h1, m, h2, h3, r, h4, h5⟩ := xfer_survives P cf env 4 _ (credOf_fits P cf env f uid gid S)
    (fun r rs' => rs' = rs ∨ (rs' = specKey P cf f :: rs ∧ 1 ≤ r))
    (fun m rs' => rs' = specKey P cf f :: rs ∧ ∃ r, r ≤ 4 ∧ m = decView (okMsg P cf env f uid gid r))
    (fun r rs' hr hinv => by
      have hok := okMsg_RspOk P cf env f uid gid r S (by omega)
      rw [dec_daemon P cf env f uid gid S rs rs' hk r (by omega) hinv]
      exact ⟨_, _, rfl, decRsp_length_lt _ hok, clientRecv_decRsp _ hok, ⟨rfl, r, hr, rfl⟩,
        hinv.imp id (fun h => ⟨h.1, by omega⟩), .inr ⟨rfl, by omega⟩⟩)
    rs (.inl rfl) sched hlen
  exact ⟨h1, h3, r, h4, h5 ▸ h2⟩

end Decode

section Encode
open Munge.Cred.B Munge.Gen.Dec

theorem encProcess_retry (P : Prims) (cf : Conf) (env : Env) (m : Msg) (r : Nat) (hr : r ≤ 5)
    (hok : (encProcess P cf env (encReqMsg 0 m)).2 = 0) :
    encProcess P cf env (encReqMsg r m) = ({ (encProcess P cf env (encReqMsg 0 m)).1 with retry := r }, 0) := by
  obtain ⟨uid, gid, hp, hv, hnow, he⟩ := encProcess_ok P cf env _ hok
  rw [he, encProcess_of P cf env (encReqMsg r m) uid gid hp hv hr hnow, encSuccess_eq, encSuccess_eq]
  rfl

/-- what the encode theorems ask of the call; `small`: the credential's length fits a C `int`, as `_msg_length`
    requires for the reply to be sent at all -/
structure EncSetup (P : Prims) (cf : Conf) (env : Env) (m : Msg) : Prop where
  call : CallOk m
  ok : (encProcess P cf env (encReqMsg 0 m)).2 = 0
  small : (encProcess P cf env (encReqMsg 0 m)).1.dataLen < 2147483648

/-- the reply message to the attempt carrying retry byte `r` -/
def encOkMsg (P : Prims) (cf : Conf) (env : Env) (m : Msg) (r : Nat) : Msg :=
  { (encProcess P cf env (encReqMsg 0 m)).1 with retry := r }

theorem encOk_errorNum_dataLen (P : Prims) (cf : Conf) (env : Env) (m : Msg) (S : EncSetup P cf env m) :
    (encProcess P cf env (encReqMsg 0 m)).1.errorNum = 0 ∧
    (encProcess P cf env (encReqMsg 0 m)).1.dataLen = (encProcess P cf env (encReqMsg 0 m)).1.data.length := by
  obtain ⟨uid, gid, hp, hv, hnow, he⟩ := encProcess_ok P cf env _ S.ok
  rw [he, encSuccess_eq]
  exact ⟨rfl, rfl⟩

theorem enc_daemon (P : Prims) (cf : Conf) (env : Env) (m : Msg) (S : EncSetup P cf env m) (rs : ReplaySet) (r : Nat)
    (hr : r ≤ 5) :
    daemon P cf env rs (reqBytes 2 r (encBody m)) true = (some (encRsp (encOkMsg P cf env m r)), rs) := by
  rw [daemon_enc _ _ _ _ _ _ _ (recvMsg_encReq r m (by omega) S.call), encProcess_retry P cf env m r hr S.ok]
  rfl

theorem encode_xfer (P : Prims) (cf : Conf) (env : Env) (m : Msg) (S : EncSetup P cf env m) (rs : ReplaySet)
    (sched : List Fault) (hlen : sched.length ≤ 4) :
    (xfer P cf env rs 2 (encBody m) sched).err = Munge.Gen.Retry.EMUNGE_SUCCESS ∧
    (xfer P cf env rs 2 (encBody m) sched).rs = rs ∧
    ∃ r, r ≤ 4 ∧ (xfer P cf env rs 2 (encBody m) sched).rsp = some (encView (encOkMsg P cf env m r)) := by
  obtain ⟨e0, el⟩ := encOk_errorNum_dataLen P cf env m S
  obtain ⟨h1, m', h2, h3, r, h4, h5⟩ := xfer_survives P cf env 2 _ S.call.fits (fun _ rs' => rs' = rs)
    (fun m' rs' => rs' = rs ∧ ∃ r, r ≤ 4 ∧ m' = encView (encOkMsg P cf env m r))
    (fun r rs' hr hinv => by
      rw [enc_daemon P cf env m S rs' r (by omega)]
      exact ⟨_, _, rfl, encRsp_length_lt _ S.small,
        clientRecv_encRsp _ (show r < 256 by omega) (by show (encProcess P cf env (encReqMsg 0 m)).1.errorNum < 256; omega)
          ⟨Nat.le_of_eq el, S.small⟩,
        ⟨hinv, r, hr, rfl⟩, hinv, hinv⟩)
    rs rfl sched hlen
  exact ⟨h1, h3, r, h4, h5 ▸ h2⟩

end Encode

end Munge.Retry
