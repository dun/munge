import Munge.Model.Replay
import Munge.Lemmas.Hash
import Munge.Lemmas.Kernel
/-
For C05 and C07.  The replay table is handled as a set of keys (`insert_spec`, `remove_spec`, `has_purge`), a request by
what it does to that set (`attempt_frame`) and what it answers (`attempt_snd`); on these rest the sequential argument
(`replayed_after`) and the invariant of the interleaved system (`Owns`).
-/
namespace Munge.Replay
open Munge.C Munge.Hash Munge.Gen.Hash

theorem memcmp_zero_iff (a b : List UInt8) : memcmp a b = 0 ↔ a = b := by
  fun_induction memcmp a b <;> simp_all
  -- the first bytes differ, hence so do their values
  case case5 hne => exact fun h => hne (UInt8.toNat_inj.1 (by omega))

theorem memcmp_lt_gt (a b : List UInt8) : memcmp a b < 0 ↔ 0 < memcmp b a := by
  fun_induction memcmp a b <;> simp_all [memcmp]
  -- the first bytes differ; `memcmp b a` takes the same branch
  case case5 hne => rw [if_neg (Ne.symm hne)]; omega

theorem memcmp_trans (a b c : List UInt8) : memcmp a b < 0 → memcmp b c < 0 → memcmp a c < 0 := by
  fun_induction memcmp a b generalizing c <;> cases c <;> simp only [memcmp] <;> try omega
  · -- equal first bytes: the next byte decides against both, or the tails do
    rename_i ih _ _
    split
    · exact ih _
    · exact fun _ h => h
  · simp only [← UInt8.toNat_inj] at *
    split <;> omega

/-- sign of the kernel `replay_cmp_f` on two keys: lexicographic on (MAC bytes, expiry) -/
theorem cmp_sign (a b : Key) :
    (cmp a b < 0 ↔ memcmp a.mac b.mac < 0 ∨ (a.mac = b.mac ∧ a.exp < b.exp)) ∧
    (cmp a b = 0 ↔ a.mac = b.mac ∧ a.exp = b.exp) ∧
    (0 < cmp a b ↔ 0 < memcmp a.mac b.mac ∨ (a.mac = b.mac ∧ b.exp < a.exp)) := by
  unfold cmp
  rw [show memcmpSwapped = false from rfl, ← memcmp_zero_iff]
  simp only [Bool.false_eq_true, if_false]
  kcases replay_cmp_f <;> dsimp only <;> omega

theorem cmpOrder : CmpOrder cmp := by
  refine ⟨fun a b => ?_, fun a b => ?_, fun a b c => ?_⟩
  · rw [(cmp_sign a b).2.1]; cases a; cases b; simp
  · rw [(cmp_sign a b).1, (cmp_sign b a).2.2, memcmp_lt_gt, eq_comm]
  · rw [(cmp_sign a b).1, (cmp_sign b c).1, (cmp_sign a c).1]
    rintro (h1 | ⟨h1, e1⟩) (h2 | ⟨h2, e2⟩)
    · exact Or.inl (memcmp_trans _ _ _ h1 h2)
    · exact Or.inl (h2 ▸ h1)
    · exact Or.inl (h1 ▸ h2)
    · exact Or.inr ⟨h1.trans h2, by omega⟩

def State.WF (st : State) : Prop := ∀ t, st.table = some t → Inv cmp keyf t

structure State.Ok (st : State) : Prop where
  wf : st.WF
  tbl : ∃ t, st.table = some t

/-- `replay_remove` rebuilds exactly the key `replay_insert` built (same expiry expression) -/
theorem removeKey_eq (c : Cred) : removeKey c = insertKey c := by
  simp [removeKey, insertKey, removeExpiry, insertExpiry]

theorem has_iff {st : State} {t : Table Key} (h : st.table = some t) (k : Key) : st.has k ↔ k ∈ t.toList := by
  simp [State.has, State.items, h]

theorem wf_initSized (st : State) (hwf : st.WF) {n : Nat} (hn : 0 < n) : (initSized n st).WF := by
  unfold initSized
  split
  · exact hwf
  · split
    · exact hwf
    · intro t ht; cases ht; exact inv_empty _ _ hn

theorem ok_mk {st : State} {t : Table Key} (hi : Inv cmp keyf t) : State.Ok { st with table := some t } :=
  ⟨fun _ h => by cases h; exact hi, t, rfl⟩

/-- `res` is what `replay_insert` may return for `c` on `st`, the table taken as a set of keys -/
structure InsertSpec (st : State) (c : Cred) (res : State × Int × Int) : Prop where
  ok : res.1.Ok
  has_iff : ∀ x, res.1.has x ↔ x = insertKey c ∨ st.has x
  dup : st.has (insertKey c) → res = (st, 1, EEXIST)
  new : ¬ st.has (insertKey c) → res.2 = (0, 0)

/-- the same for `replay_remove` -/
structure RemoveSpec (st : State) (c : Cred) (res : State × Int) : Prop where
  ok : res.1.Ok
  has_iff : ∀ x, res.1.has x ↔ st.has x ∧ x ≠ insertKey c
  absent : ¬ st.has (insertKey c) → res = (st, -1)
  present : st.has (insertKey c) → res.2 = 0

theorem insert_spec {st : State} (hok : st.Ok) (c : Cred) : InsertSpec st c (insert st c) := by
  obtain ⟨t, ht⟩ := hok.tbl
  have hi := hok.wf t ht
  unfold insert
  by_cases hk : st.has (insertKey c)
  · simp only [ht, insert_dup cmpOrder hi _ ((has_iff ht _).1 hk)]
    exact ⟨hok, fun x => (or_iff_right_of_imp (· ▸ hk)).symm, fun _ => rfl, fun h => absurd hk h⟩
  · obtain ⟨t', he, hi', hm⟩ := insert_new cmpOrder hi _ (mt (has_iff ht _).2 hk)
    simp only [ht, he]
    refine ⟨ok_mk hi', fun x => ?_, fun h => absurd h hk, fun _ => rfl⟩
    rw [has_iff (st := { st with table := some t' }) rfl, has_iff ht, hm]

theorem remove_spec {st : State} (hok : st.Ok) (c : Cred) : RemoveSpec st c (remove st c) := by
  obtain ⟨t, ht⟩ := hok.tbl
  have hi := hok.wf t ht
  unfold remove
  rw [removeKey_eq]
  by_cases hk : st.has (insertKey c)
  · obtain ⟨t', he, hi', hm⟩ := Hash.remove_present cmpOrder hi _ ((has_iff ht _).1 hk)
    simp only [ht, he]
    refine ⟨ok_mk hi', fun x => ?_, fun h => absurd hk h, fun _ => rfl⟩
    rw [has_iff (st := { st with table := some t' }) rfl, has_iff ht, hm]
  · simp only [ht, Hash.remove_absent cmpOrder hi _ (mt (has_iff ht _).2 hk)]
    exact ⟨hok, fun x => (and_iff_left_of_imp fun hx e => hk (by rwa [e] at hx)).symm, fun _ => rfl, fun h => absurd h hk⟩

theorem isExpired_pos (now : Int) (k : Key) : isExpired now k > 0 ↔ k.exp < now := by
  unfold isExpired
  kcases replay_is_expired <;> dsimp only <;> omega

theorem items_purge (st : State) (now : Int) :
    (purge st now).1.items = st.items.filter (fun k => !decide (k.exp < now)) := by
  unfold purge State.items
  cases h : st.table with
  | none => simp [h]
  | some t =>
    simp only [toList_deleteIf]
    congr 1
    funext k
    simp [delete_sel_iff, isExpired_pos]

theorem has_purge (st : State) (now : Int) (k : Key) : (purge st now).1.has k ↔ st.has k ∧ ¬ k.exp < now := by
  simp [State.has, items_purge]

theorem purge_ok {st : State} (hok : st.Ok) (now : Int) : (purge st now).1.Ok := by
  obtain ⟨t, ht⟩ := hok.tbl
  unfold purge; simp only [ht]
  exact ok_mk (inv_deleteIf (hok.wf t ht) _)

theorem benchmark_purge (st : State) (now : Int) : (purge st now).1.benchmark = st.benchmark := by
  unfold purge; cases st.table <;> rfl

/-- C ranges of the configuration fields (`got_*` are 1-bit fields, `max_ttl` a positive `int`) -/
structure Cfg.Valid (cfg : Cfg) : Prop where
  retry01 : 0 ≤ cfg.got_socket_retry ∧ cfg.got_socket_retry ≤ 1
  skew01 : 0 ≤ cfg.got_clock_skew ∧ cfg.got_clock_skew ≤ 1
  maxttl : 0 ≤ cfg.max_ttl ∧ cfg.max_ttl ≤ 2147483647

/-- `ttl' = min ttl max_ttl`: the value `dec_validate_time` leaves in `m->ttl` -/
def capTtl (cfg : Cfg) (ttl : Int) : Int := if ttl > cfg.max_ttl then cfg.max_ttl else ttl

/-- replay key of a request: kept MAC bytes and `(time0 + ttl') mod 2^32` -/
def keyOf (cfg : Cfg) (r : Req) : Key := ⟨r.mac.take MAC_KEEP, wrapU32 (r.time0 + capTtl cfg r.ttl)⟩

/-- the request passes `dec_validate_time` when the daemon's clock shows `now` -/
def timeOk (cfg : Cfg) (now : Int) (r : Req) : Prop :=
  ¬ (dec_validate_time r.time0 r.ttl (wrapU32 now) cfg.max_ttl cfg.got_clock_skew).ret < 0

/-- the documented exception: retries are enabled and the header carries a retry count in `1..RETRY_ATTEMPTS` -/
def Exempt (cfg : Cfg) (retry : Int) : Prop :=
  cfg.got_socket_retry ≠ 0 ∧ 0 < retry ∧ retry ≤ RETRY_ATTEMPTS

/-- A roll-back decision is sound when it fires only for a request whose own `replay_insert`
    returned 0, whatever the replay stage (`dec_validate_replay`) saw. -/
def RollbackSound (rb : RollbackPred) : Prop :=
  ∀ retry gsr errno ins : Int,
    rb (if (dec_validate_replay retry gsr errno ins).ret < 0 then -1 else 0)
       (fieldsOf (dec_validate_replay retry gsr errno ins)) = true → ins = 0

theorem capTtl_le (cfg : Cfg) (ttl : Int) : capTtl cfg ttl ≤ cfg.max_ttl := by unfold capTtl; split <;> omega

/-- negative clock skew the time check allows: `ttl'` when clock skew is configured, else 1 second -/
def skewOf (cfg : Cfg) (ttl : Int) : Int := if cfg.got_clock_skew ≠ 0 then capTtl cfg ttl else 1

/-- the time window does not wrap around 0 or 2^32 for this request -/
def Req.NoWrap (cfg : Cfg) (r : Req) : Prop :=
  0 ≤ r.ttl ∧ skewOf cfg r.ttl ≤ r.time0 ∧ r.time0 + capTtl cfg r.ttl < 4294967296

/-- `timeOk` is the left side of the equivalence -/
theorem dec_validate_time_spec (cfg : Cfg) (hv : cfg.Valid) (t0 ttl t1 : Int) :
    ttlAfter (dec_validate_time t0 ttl t1 cfg.max_ttl cfg.got_clock_skew) ttl = capTtl cfg ttl ∧
    (¬ (dec_validate_time t0 ttl t1 cfg.max_ttl cfg.got_clock_skew).ret < 0 ↔
      wrapU32 (t0 - wrapU32 (wrapS32 (skewOf cfg ttl))) ≤ t1 ∧ t1 ≤ wrapU32 (t0 + capTtl cfg ttl)) := by
  have hm : wrapU32 cfg.max_ttl = cfg.max_ttl := by have := hv.maxttl; unfold wrapU32; omega
  have hsk : wrapS32 cfg.got_clock_skew = 0 ↔ cfg.got_clock_skew = 0 := by have := hv.skew01; unfold wrapS32; omega
  simp only [skewOf, capTtl, ne_eq]
  -- the two conversions of configuration fields are rewritten in the kernel before its paths are split; the window
  -- itself is left to `omega` as it stands (`simp` would rewrite the nested `wrapU32` on one side only)
  kcases dec_validate_time with [hm, hsk]
  all_goals
    refine ⟨by simp [ttlAfter, KOut.written], ?_⟩
    dsimp only
    omega

theorem insertKey_credOf (cfg : Cfg) (hv : cfg.Valid) (now : Int) (r : Req) :
    insertKey (credOf cfg now r) = keyOf cfg r := by
  simp [insertKey, credOf, keyOf, (dec_validate_time_spec cfg hv _ _ _).1, insertExpiry]

theorem timeOk_le_exp (cfg : Cfg) (hv : cfg.Valid) {now : Int} (h0 : 0 ≤ now) (h1 : now < 4294967296) (r : Req)
    (h : timeOk cfg now r) : now ≤ (keyOf cfg r).exp := by
  have := ((dec_validate_time_spec cfg hv _ _ _).2.1 h).2
  rwa [wrapU32_id h0 h1] at this

theorem accepted_window (cfg : Cfg) (hv : cfg.Valid) (t : Int) (ht : 0 ≤ t ∧ t < 4294967296) (r : Req)
    (hnw : r.NoWrap cfg) (h : timeOk cfg t r) :
    r.time0 - skewOf cfg r.ttl ≤ t ∧ t ≤ r.time0 + capTtl cfg r.ttl ∧
    (keyOf cfg r).exp = r.time0 + capTtl cfg r.ttl := by
  have h := (dec_validate_time_spec cfg hv _ _ _).2.1 h
  obtain ⟨h0, h1, h2⟩ := hnw
  have hmx := hv.maxttl
  have hcap : 0 ≤ capTtl cfg r.ttl ∧ capTtl cfg r.ttl ≤ cfg.max_ttl := by unfold capTtl; omega
  have hsk : 0 ≤ skewOf cfg r.ttl ∧ skewOf cfg r.ttl ≤ 2147483647 := by unfold skewOf; omega
  -- under `NoWrap` every conversion in the window is the identity
  have he : wrapU32 (r.time0 + capTtl cfg r.ttl) = r.time0 + capTtl cfg r.ttl := wrapU32_id (by omega) h2
  rw [wrapS32_id (by omega) (by omega), wrapU32_id hsk.1 (by omega), wrapU32_id (by omega) (by omega),
    wrapU32_id ht.1 ht.2, he] at h
  exact ⟨h.1, h.2, he⟩

theorem dec_validate_time_err_ne (t0 ttl t1 mx sk : Int) (h : (dec_validate_time t0 ttl t1 mx sk).ret < 0) :
    errOf (dec_validate_time t0 ttl t1 mx sk) ≠ EMUNGE_SUCCESS := by
  kcases dec_validate_time <;> simp [errOf, EMUNGE_SUCCESS] at *

/-- a daemon state the theorems speak about: `replay_init` has run and the table is well-formed -/
structure Daemon.Ok (d : Daemon) : Prop where
  wf : d.replay.WF
  tbl : ∃ t, d.replay.table = some t

theorem Daemon.Ok.st {d : Daemon} (h : d.Ok) : d.replay.Ok := ⟨h.wf, h.tbl⟩
theorem Daemon.Ok.of {d : Daemon} (h : d.replay.Ok) : d.Ok := ⟨h.wf, h.tbl⟩

/-- `rc` and the reply's error code as `dec_process_msg` derives them from the replay stage's kernel -/
def rcOf (rv : KOut) : Int := if rv.ret < 0 then -1 else 0
def codeOf (rv : KOut) : Int := if rv.ret < 0 then errOf rv else EMUNGE_SUCCESS

theorem dec_validate_replay_code {cfg : Cfg} (hv : cfg.Valid) (retry errno ins : Int) :
    (ins = 0 → codeOf (dec_validate_replay retry cfg.got_socket_retry errno ins) = EMUNGE_SUCCESS) ∧
    (ins > 0 → Exempt cfg retry → codeOf (dec_validate_replay retry cfg.got_socket_retry errno ins) = EMUNGE_SUCCESS) ∧
    (ins > 0 → ¬ Exempt cfg retry →
      codeOf (dec_validate_replay retry cfg.got_socket_retry errno ins) = EMUNGE_CRED_REPLAYED) := by
  have hw : wrapS32 cfg.got_socket_retry ≠ 0 ↔ cfg.got_socket_retry ≠ 0 := by have := hv.retry01; unfold wrapS32; omega
  unfold Exempt RETRY_ATTEMPTS codeOf
  kcases dec_validate_replay <;> simp [errOf, EMUNGE_CRED_REPLAYED, EMUNGE_SUCCESS] <;> omega

/-- outcome of a request that reached the replay stage, as a function of what `replay_insert` returned -/
def outcomeOf (rb : RollbackPred) (cfg : Cfg) (r : Req) (ins errno : Int) : Outcome :=
  let rv := dec_validate_replay r.retry cfg.got_socket_retry errno ins
  ⟨codeOf rv, r.sendOk, some ins, !r.sendOk && rb (rcOf rv) (fieldsOf rv)⟩

theorem outcomeOf_withdrew (rb : RollbackPred) (cfg : Cfg) (r : Req) {ins : Int} (errno : Int)
    (h : RollbackSound rb ∨ r.sendOk = true) (hins : ins ≠ 0) : (outcomeOf rb cfg r ins errno).withdrew = false := by
  simp only [outcomeOf, rcOf]
  rcases h with h | h
  · -- a sound decision does not fire for a request whose `replay_insert` did not return 0
    rw [Bool.eq_false_iff.2 fun hb => hins (h _ _ _ ins hb), Bool.and_false]
  · rw [h]; rfl

/-- whether a request gets as far as `dec_validate_replay` -/
def passes (cfg : Cfg) (now : Int) (r : Req) : Prop := r.preErr = 0 ∧ r.authOk = true ∧ timeOk cfg now r

/-- outcome of a request that fails before the replay stage -/
def failOutcome (cfg : Cfg) (now : Int) (r : Req) : Outcome :=
  ⟨if r.preErr ≠ 0 then r.preErr else if !r.authOk then EMUNGE_CRED_UNAUTHORIZED
    else errOf (dec_validate_time r.time0 r.ttl (wrapU32 now) cfg.max_ttl cfg.got_clock_skew), r.sendOk, none, false⟩

theorem not_passes {cfg : Cfg} {now : Int} {r : Req} :
    ¬ passes cfg now r ↔ r.preErr ≠ 0 ∨ r.authOk = false ∨ ¬ timeOk cfg now r := by
  simp only [passes, Classical.not_and_iff_not_or_not, Bool.not_eq_true]

theorem attempt_fail (rb : RollbackPred) {cfg : Cfg} {d : Daemon} {r : Req} (h : ¬ passes cfg d.now r) :
    attempt rb cfg d r = (d, failOutcome cfg d.now r) ∧ (failOutcome cfg d.now r).code ≠ EMUNGE_SUCCESS := by
  unfold attempt failOutcome passes timeOk at *
  by_cases h1 : r.preErr ≠ 0
  · rw [if_pos h1, if_pos h1]; exact ⟨rfl, h1⟩
  · by_cases h2 : r.authOk = false
    · simp [h1, h2, EMUNGE_SUCCESS, EMUNGE_CRED_UNAUTHORIZED]
    · have h3 : (dec_validate_time r.time0 r.ttl (wrapU32 d.now) cfg.max_ttl cfg.got_clock_skew).ret < 0 := by
        simp_all
      simpa [h1, h2, h3] using dec_validate_time_err_ne _ _ _ _ _ h3

theorem attempt_pass (rb : RollbackPred) {cfg : Cfg} {d : Daemon} {r : Req} (h : passes cfg d.now r) :
    attempt rb cfg d r =
      let res := insert d.replay (credOf cfg d.now r)
      let o := outcomeOf rb cfg r res.2.1 res.2.2
      ({ d with replay := if o.withdrew then (remove res.1 (credOf cfg d.now r)).1 else res.1 }, o) := by
  obtain ⟨hpre, hauth, ht⟩ := h
  unfold timeOk at ht
  unfold attempt outcomeOf rcOf credOf
  dsimp only
  simp only [hpre, hauth, ne_eq, not_true, if_false, Bool.not_true, Bool.false_eq_true, ht]
  cases r.sendOk
  · cases rb _ _ <;> rfl
  · rfl

theorem attempt_now (rb : RollbackPred) (cfg : Cfg) (d : Daemon) (r : Req) : (attempt rb cfg d r).1.now = d.now := by
  by_cases hp : passes cfg d.now r
  · rw [attempt_pass rb hp]
  · rw [(attempt_fail rb hp).1]

section any
variable (rb : RollbackPred) {cfg : Cfg} (hv : cfg.Valid) {d : Daemon} (hok : d.Ok) (r : Req)
include hv hok

open Classical in
/-- What any request answers: a function of the clock and of whether its key is in the table. -/
theorem attempt_snd : (attempt rb cfg d r).2 =
    if passes cfg d.now r then
      if d.replay.has (keyOf cfg r) then outcomeOf rb cfg r 1 EEXIST else outcomeOf rb cfg r 0 0
    else failOutcome cfg d.now r := by
  split
  next hp =>
    have hi := insert_spec hok.st (credOf cfg d.now r)
    rw [attempt_pass rb hp]
    dsimp only
    split
    · rw [hi.dup (insertKey_credOf cfg hv .. ▸ ‹_›)]
    · rw [hi.new (insertKey_credOf cfg hv .. ▸ ‹_›)]
  next hp => rw [(attempt_fail rb hp).1]

/-- What any request does to the table: the key of a request that reaches the replay stage is in it afterwards
    unless the request rolled back; no other key is touched. -/
theorem attempt_frame : (attempt rb cfg d r).1.Ok ∧
    ∀ x, (attempt rb cfg d r).1.replay.has x ↔
      (x = keyOf cfg r ∧ passes cfg d.now r ∨ d.replay.has x) ∧ ((attempt rb cfg d r).2.withdrew = true → x ≠ keyOf cfg r) := by
  by_cases hp : passes cfg d.now r
  · have hi := insert_spec hok.st (credOf cfg d.now r)
    have hr := remove_spec hi.ok (credOf cfg d.now r)
    have hm := hi.has_iff
    have hm2 := hr.has_iff
    rw [insertKey_credOf cfg hv] at hm hm2
    rw [attempt_pass rb hp]
    dsimp only
    split
    next hw => exact ⟨.of hr.ok, fun x => by simp [hm2, hm, hp, hw]⟩
    next hw => exact ⟨.of hi.ok, fun x => by simp [hm, hp, hw]⟩
  · rw [(attempt_fail rb hp).1]
    exact ⟨hok, fun x => by simp [hp, failOutcome]⟩

/-- a key in the table after a request is the request's own, which passed, or was there before -/
theorem attempt_origin {x : Key} (h : (attempt rb cfg d r).1.replay.has x) :
    x = keyOf cfg r ∧ passes cfg d.now r ∨ d.replay.has x :=
  (((attempt_frame rb hv hok r).2 x).1 h).1

theorem attempt_keeps {k : Key} (hrb : RollbackSound rb ∨ (keyOf cfg r = k → r.sendOk = true))
    (hk : d.replay.has k) : (attempt rb cfg d r).1.replay.has k := by
  refine ((attempt_frame rb hv hok r).2 k).2 ⟨Or.inr hk, fun hw e => ?_⟩
  subst e
  rw [attempt_snd rb hv hok r, if_pos hk] at hw
  split at hw
  · rw [outcomeOf_withdrew rb cfg r _ (hrb.imp_right (· rfl)) Int.one_ne_zero] at hw
    exact absurd hw (by decide)
  · exact absurd hw Bool.false_ne_true

theorem attempt_outcome {d' : Daemon} (hok' : d'.Ok) (hnow : d'.now = d.now)
    (hkey : d'.replay.has (keyOf cfg r) ↔ d.replay.has (keyOf cfg r)) :
    (attempt rb cfg d' r).2 = (attempt rb cfg d r).2 := by
  rw [attempt_snd rb hv hok r, attempt_snd rb hv hok' r, hnow]
  simp only [hkey]

end any

/-- the entry `k` outlives the events `evs` as far as purging goes: every purge tick among them
    comes at a clock value not after `k.exp` (`now` is the clock before the first event) -/
def keptBy (k : Key) : Int → List Ev → Prop
  | _, [] => True
  | now, .tick δ :: es => keptBy k (now + δ) es
  | now, .purge :: es => now ≤ k.exp ∧ keptBy k now es
  | now, .req _ :: es => keptBy k now es

theorem stepEv_ok (rb : RollbackPred) (cfg : Cfg) (hv : cfg.Valid) (d : Daemon) (hok : d.Ok) (e : Ev) :
    (stepEv rb cfg d e).1.Ok := by
  cases e with
  | req r => exact (attempt_frame rb hv hok r).1
  | tick δ => exact .of hok.st
  | purge => exact .of (purge_ok hok.st d.now)

theorem now_le_stepEv (rb : RollbackPred) (cfg : Cfg) (d : Daemon) (e : Ev) : d.now ≤ (stepEv rb cfg d e).1.now := by
  cases e with
  | req r => exact Int.le_of_eq (attempt_now rb cfg d r).symm
  | tick δ => exact Int.le_add_of_nonneg_right (Int.natCast_nonneg δ)
  | purge => exact Int.le_refl _

theorem run_cons (rb : RollbackPred) (cfg : Cfg) (d : Daemon) (e : Ev) (es : List Ev) :
    (run rb cfg d (e :: es)).1 = (run rb cfg (stepEv rb cfg d e).1 es).1 := by
  simp [run]

theorem run_ok (rb : RollbackPred) (cfg : Cfg) (hv : cfg.Valid) : ∀ (evs : List Ev) (d : Daemon), d.Ok →
    (run rb cfg d evs).1.Ok
  | [], _, hok => hok
  | e :: es, d, hok => by rw [run_cons]; exact run_ok rb cfg hv es _ (stepEv_ok rb cfg hv d hok e)

theorem now_le_run (rb : RollbackPred) (cfg : Cfg) : ∀ (evs : List Ev) (d : Daemon), d.now ≤ (run rb cfg d evs).1.now
  | [], _ => Int.le_refl _
  | e :: es, d => by rw [run_cons]; exact Int.le_trans (now_le_stepEv rb cfg d e) (now_le_run rb cfg es _)

/-- every request about `k` among the events has its reply delivered -/
def repliesDelivered (cfg : Cfg) (k : Key) : List Ev → Prop
  | [] => True
  | .req r :: es => (keyOf cfg r = k → r.sendOk = true) ∧ repliesDelivered cfg k es
  | _ :: es => repliesDelivered cfg k es

theorem run_keeps (rb : RollbackPred) (cfg : Cfg) (hv : cfg.Valid) (k : Key) :
    ∀ (evs : List Ev) (d : Daemon), (RollbackSound rb ∨ repliesDelivered cfg k evs) → d.Ok → d.replay.has k →
      keptBy k d.now evs → (run rb cfg d evs).1.replay.has k
  | [], _, _, _, hk, _ => hk
  | e :: es, d, hrb, hok, hk, hkept => by
    rw [run_cons]
    have h1 := stepEv_ok rb cfg hv d hok e
    cases e with
    | req r =>
      exact run_keeps rb cfg hv k es _ (hrb.imp_right And.right) h1
        (attempt_keeps rb hv hok r (hrb.imp_right And.left) hk) (attempt_now rb cfg d r ▸ hkept)
    | tick δ => exact run_keeps rb cfg hv k es _ hrb h1 hk hkept
    | purge => exact run_keeps rb cfg hv k es _ hrb h1 ((has_purge _ _ _).2 ⟨hk, by have := hkept.1; omega⟩) hkept.2

section seq
variable (rb : RollbackPred) {cfg : Cfg} (hv : cfg.Valid) {d : Daemon} (hok : d.Ok)
include hv hok

theorem success_has {r : Req}
    (h : (attempt rb cfg d r).2.code = EMUNGE_SUCCESS ∧ (attempt rb cfg d r).2.delivered = true) :
    (attempt rb cfg d r).1.replay.has (keyOf cfg r) := by
  by_cases hp : passes cfg d.now r
  · refine ((attempt_frame rb hv hok r).2 _).2 ⟨Or.inl ⟨rfl, hp⟩, fun hw => ?_⟩
    -- delivered, hence not rolled back
    rw [attempt_pass rb hp] at h hw
    have hs : r.sendOk = true := h.2
    simp [outcomeOf, hs] at hw
  · rw [(attempt_fail rb hp).1] at h; exact absurd h.1 (attempt_fail rb hp).2

theorem present_code {r : Req} (hk : d.replay.has (keyOf cfg r)) :
    ((attempt rb cfg d r).2.code = EMUNGE_SUCCESS → Exempt cfg r.retry) ∧
    (passes cfg d.now r → ¬ Exempt cfg r.retry → (attempt rb cfg d r).2.code = EMUNGE_CRED_REPLAYED) := by
  rw [attempt_snd rb hv hok r, if_pos hk]
  split
  next hp =>
    have hr : ¬ Exempt cfg r.retry → (outcomeOf rb cfg r 1 EEXIST).code = EMUNGE_CRED_REPLAYED :=
      (dec_validate_replay_code hv r.retry EEXIST 1).2.2 Int.one_pos
    exact ⟨fun hc => Classical.byContradiction fun he => by rw [hr he] at hc; exact absurd hc (by decide), fun _ => hr⟩
  next hp => exact ⟨fun hc => absurd hc (attempt_fail rb hp).2, fun h => absurd h hp⟩

/-- Once the key of `ri` is in the table after `ri`, it stays through any history `mid` that does
    not purge it (sound roll-back, or no request about it in `mid` loses its reply), and a later
    request `rj` for the same credential is answered accordingly. -/
theorem replayed_after {ri rj : Req} {mid : List Ev}
    (hrb : RollbackSound rb ∨ repliesDelivered cfg (keyOf cfg ri) mid) (hkey : keyOf cfg rj = keyOf cfg ri)
    (hpres : (attempt rb cfg d ri).1.replay.has (keyOf cfg ri)) (hlive : keptBy (keyOf cfg ri) d.now mid) :
    (run rb cfg (attempt rb cfg d ri).1 mid).1.replay.has (keyOf cfg ri) ∧
    ((attempt rb cfg (run rb cfg (attempt rb cfg d ri).1 mid).1 rj).2.code = EMUNGE_SUCCESS → Exempt cfg rj.retry) ∧
    (passes cfg (run rb cfg (attempt rb cfg d ri).1 mid).1.now rj → ¬ Exempt cfg rj.retry →
      (attempt rb cfg (run rb cfg (attempt rb cfg d ri).1 mid).1 rj).2.code = EMUNGE_CRED_REPLAYED) := by
  have hi := attempt_frame rb hv hok ri
  have h2 := run_keeps rb cfg hv _ mid _ hrb hi.1 hpres (attempt_now rb cfg d ri ▸ hlive)
  exact ⟨h2, present_code rb hv (run_ok rb cfg hv mid _ hi.1) (hkey ▸ h2)⟩

end seq

theorem keptBy_of_final_le (rb : RollbackPred) (cfg : Cfg) (k : Key) :
    ∀ (evs : List Ev) (d : Daemon), (run rb cfg d evs).1.now ≤ k.exp → keptBy k d.now evs
  | [], _, _ => trivial
  | e :: es, d, hfin => by
    rw [run_cons] at hfin
    have ih := keptBy_of_final_le rb cfg k es _ hfin
    cases e with
    | req r => exact attempt_now rb cfg d r ▸ ih
    | tick δ => exact ih
    | purge => exact ⟨Int.le_trans (now_le_run rb cfg es (stepEv rb cfg d .purge).1) hfin, ih⟩

/-- clock value of the last purge tick of a history (`lo` if there is none; `now` is the clock before the first event) -/
def lastPurge : Int → Int → List Ev → Int
  | lo, _, [] => lo
  | lo, now, .tick δ :: es => lastPurge lo (now + δ) es
  | _, now, .purge :: es => lastPurge now now es
  | lo, now, .req _ :: es => lastPurge lo now es

/-- provenance of the entries, for any `P` monotone in the clock: a key in the table was there at the start, or belongs to a
    request that passed at a clock value within the history's range -/
theorem run_provenance (rb : RollbackPred) (cfg : Cfg) (hv : cfg.Valid) (P : Int → Key → Prop)
    (hmono : ∀ k t t', t ≤ t' → P t k → P t' k) :
    ∀ (evs : List Ev) (d : Daemon), d.Ok → (∀ k, d.replay.has k → P d.now k) →
      (∀ r t, d.now ≤ t → t ≤ (run rb cfg d evs).1.now → passes cfg t r → P t (keyOf cfg r)) →
      ∀ k, (run rb cfg d evs).1.replay.has k → P (run rb cfg d evs).1.now k
  | [], _, _, h0, _ => h0
  | e :: es, d, hok, h0, hreq => by
    rw [run_cons] at hreq ⊢
    have h1 := now_le_stepEv rb cfg d e
    refine run_provenance rb cfg hv P hmono es _ (stepEv_ok rb cfg hv d hok e) ?_
      (fun r t ht1 ht2 hp => hreq r t (Int.le_trans h1 ht1) ht2 hp)
    cases e with
    | req r =>
      intro k hk
      show P (attempt rb cfg d r).1.now k
      rw [attempt_now]
      rcases attempt_origin rb hv hok r hk with ⟨rfl, hp⟩ | h
      · exact hreq r d.now (Int.le_refl _) (Int.le_trans h1 (now_le_run rb cfg es _)) hp
      · exact h0 k h
    | tick δ => exact fun k hk => hmono k d.now _ h1 (h0 k hk)
    | purge => exact fun k hk => h0 k ((has_purge _ _ _).1 hk).1

theorem run_discards (rb : RollbackPred) (cfg : Cfg) (hv : cfg.Valid) :
    ∀ (evs : List Ev) (d : Daemon) (lo : Int), d.Ok → 0 ≤ d.now → (run rb cfg d evs).1.now < 4294967296 →
      lo ≤ d.now → (∀ k, d.replay.has k → lo ≤ k.exp) →
      ∀ k, (run rb cfg d evs).1.replay.has k → lastPurge lo d.now evs ≤ k.exp
  | [], _, _, _, _, _, _, h0 => h0
  | e :: es, d, lo, hok, hnn, hfin, hlo, h0 => by
    rw [run_cons] at hfin ⊢
    have h1 := stepEv_ok rb cfg hv d hok e
    have hle := now_le_stepEv rb cfg d e
    cases e with
    | req r =>
      have hnow : (stepEv rb cfg d (Ev.req r)).1.now = d.now := attempt_now rb cfg d r
      have h2 := hnow ▸ now_le_run rb cfg es (stepEv rb cfg d (Ev.req r)).1
      have := run_discards rb cfg hv es _ lo h1 (hnow ▸ hnn) hfin (hnow ▸ hlo) fun k hk => by
        rcases attempt_origin rb hv hok r hk with ⟨rfl, hp⟩ | h
        · -- a key inserted now belongs to a request that passes the time check now
          have := timeOk_le_exp cfg hv hnn (by omega) r hp.2.2
          omega
        · exact h0 k h
      rwa [hnow] at this
    | tick δ => exact run_discards rb cfg hv es _ lo h1 (Int.le_trans hnn hle) hfin (Int.le_trans hlo hle) h0
    | purge =>
      exact run_discards rb cfg hv es _ d.now h1 hnn hfin (Int.le_refl _)
        fun k hk => by have := ((has_purge _ _ _).1 hk).2; omega

/-- replay key of concurrent request `i` -/
def ckey (reqs : Nat → CReq) (i : Nat) : Key := insertKey (reqs i).cred

/-- request `i` currently "holds" its entry: its `replay_insert` returned 0 and it has not rolled back -/
def holder (s : Sys) (i : Nat) : Prop := (s.loc i).pc ≥ 1 ∧ (s.loc i).ins = 0 ∧ (s.loc i).withdrew = false

/-- the reply of request `i` was SUCCESS and reached the client -/
def deliveredSuccess (reqs : Nat → CReq) (s : Sys) (i : Nat) : Prop :=
  (s.loc i).pc ≥ 2 ∧ (reqs i).sendOk = true ∧ (s.loc i).code = EMUNGE_SUCCESS

theorem holder_congr {s s' : Sys} {i : Nat} (h : s'.loc i = s.loc i) : holder s' i ↔ holder s i := by
  unfold holder; rw [h]

/-- the table as a set is `base` plus the keys of the holders; each such key has one holder and is not in `base` -/
structure Owns (reqs : Nat → CReq) (base has : Key → Prop) (hold : Nat → Prop) : Prop where
  mem : ∀ k, has k ↔ base k ∨ ∃ i, hold i ∧ ckey reqs i = k
  uniq : ∀ i j, hold i → hold j → ckey reqs i = ckey reqs j → i = j
  fresh : ∀ i, hold i → ¬ base (ckey reqs i)

section owns
variable {reqs : Nat → CReq} {base has has' : Key → Prop} {hold hold' : Nat → Prop} {p : Prop}

theorem Owns.congr (h : Owns reqs base has hold) (hh : ∀ j, hold' j ↔ hold j) : Owns reqs base has hold' := by
  obtain rfl : hold' = hold := funext fun x => propext (hh x)
  exact h

theorem Owns.same (h : Owns reqs base has hold) {i : Nat} (hp : p ↔ hold i) :
    Owns reqs base has fun j => if j = i then p else hold j :=
  h.congr fun j => by
    split
    · subst j; exact hp
    · rfl

/-- request `i`, whose key is not in the table, becomes a holder: exactly its key is added -/
theorem Owns.add (h : Owns reqs base has hold) {i : Nat} (hn : ¬ has (ckey reqs i))
    (hm : ∀ x, has' x ↔ x = ckey reqs i ∨ has x) (hp : p) :
    Owns reqs base has' fun j => if j = i then p else hold j := by
  have hh : ∀ j, (if j = i then p else hold j) ↔ j = i ∨ hold j := fun j => by split <;> simp [*]
  have hni : ∀ j, hold j → ckey reqs j ≠ ckey reqs i := fun j hj e => hn ((h.mem _).2 (Or.inr ⟨j, hj, e⟩))
  refine ⟨fun k => ?_, fun j k hj hk e => ?_, fun j hj hb => ?_⟩
  · rw [hm, h.mem]; simp only [hh]
    constructor
    · rintro (rfl | hb | ⟨j, hj, rfl⟩)
      · exact Or.inr ⟨i, Or.inl rfl, rfl⟩
      · exact Or.inl hb
      · exact Or.inr ⟨j, Or.inr hj, rfl⟩
    · rintro (hb | ⟨j, rfl | hj, rfl⟩)
      · exact Or.inr (Or.inl hb)
      · exact Or.inl rfl
      · exact Or.inr (Or.inr ⟨j, hj, rfl⟩)
  · rcases (hh j).1 hj with rfl | hj' <;> rcases (hh k).1 hk with rfl | hk'
    · rfl
    · exact absurd e.symm (hni k hk')
    · exact absurd e (hni j hj')
    · exact h.uniq j k hj' hk' e
  · rcases (hh j).1 hj with rfl | hj'
    · exact hn ((h.mem _).2 (Or.inl hb))
    · exact h.fresh j hj' hb

/-- the holder `i` gives up: exactly its key goes -/
theorem Owns.del (h : Owns reqs base has hold) {i : Nat} (hi : hold i)
    (hm : ∀ x, has' x ↔ has x ∧ x ≠ ckey reqs i) (hp : ¬ p) :
    Owns reqs base has' fun j => if j = i then p else hold j := by
  have hh : ∀ j, (if j = i then p else hold j) ↔ hold j ∧ j ≠ i := fun j => by split <;> simp [*]
  refine ⟨fun k => ?_, fun j k hj hk e => h.uniq j k ((hh j).1 hj).1 ((hh k).1 hk).1 e,
    fun j hj => h.fresh j ((hh j).1 hj).1⟩
  rw [hm, h.mem]; simp only [hh]
  constructor
  · rintro ⟨hb | ⟨j, hj, rfl⟩, hne⟩
    · exact Or.inl hb
    · exact Or.inr ⟨j, ⟨hj, fun e => hne (e ▸ rfl)⟩, rfl⟩
  · rintro (hb | ⟨j, ⟨hj, hne⟩, rfl⟩)
    · exact ⟨Or.inl hb, fun e => h.fresh i hi (e ▸ hb)⟩
    · exact ⟨Or.inr ⟨j, hj, rfl⟩, fun e => hne (h.uniq j i hj hi e)⟩

end owns

/-- what the local record of a request says about the replay stage it went through -/
structure LocOk (cfg : Cfg) (q : CReq) (l : Local) : Prop where
  cons : l.pc ≥ 1 → (l.ins = 0 ∨ l.ins = 1) ∧ ∃ errno,
    l.rc = rcOf (dec_validate_replay q.retry cfg.got_socket_retry errno l.ins) ∧
    l.fld = fieldsOf (dec_validate_replay q.retry cfg.got_socket_retry errno l.ins) ∧
    l.code = codeOf (dec_validate_replay q.retry cfg.got_socket_retry errno l.ins)
  wd : l.withdrew = false ∨ (l.pc = 3 ∧ q.sendOk = false)

/-- invariant of the interleaved system; `base` is the set of keys present before any of the requests ran -/
structure ConcInv (cfg : Cfg) (reqs : Nat → CReq) (base : Key → Prop) (s : Sys) : Prop where
  ok : s.replay.Ok
  owns : Owns reqs base s.replay.has (holder s)
  loc : ∀ i, LocOk cfg (reqs i) (s.loc i)

theorem ConcInv.upd {cfg : Cfg} {reqs : Nat → CReq} {base : Key → Prop} {s : Sys} (hinv : ConcInv cfg reqs base s)
    {i : Nat} {st : State} {l : Local} (hok : st.Ok) (hl : LocOk cfg (reqs i) l)
    (ho : Owns reqs base st.has fun j => if j = i then l.pc ≥ 1 ∧ l.ins = 0 ∧ l.withdrew = false else holder s j) :
    ConcInv cfg reqs base ⟨st, fun j => if j = i then l else s.loc j⟩ := by
  refine ⟨hok, ho.congr fun j => ?_, fun j => ?_⟩
  · unfold holder; dsimp only; split <;> rfl
  · dsimp only; split
    · subst j; exact hl
    · exact hinv.loc j

theorem concInv_step (rb : RollbackPred) (hrb : RollbackSound rb) (cfg : Cfg) (reqs : Nat → CReq)
    (base : Key → Prop) (s : Sys) (hinv : ConcInv cfg reqs base s) (i : Nat) :
    ConcInv cfg reqs base (Sys.step rb cfg reqs s i) := by
  have hl := hinv.loc i
  have hnw : (s.loc i).pc ≤ 2 → (s.loc i).withdrew = false := fun h => hl.wd.resolve_right (by omega)
  unfold Sys.step
  dsimp only
  split
  · -- pc 0: the replay stage
    rename_i hpc
    obtain ⟨hok', hm, hdup, hnew⟩ := insert_spec hinv.ok (reqs i).cred
    by_cases hp : s.replay.has (ckey reqs i)
    · rw [hdup hp]
      exact hinv.upd hinv.ok ⟨fun _ => ⟨Or.inr rfl, EEXIST, rfl, rfl, rfl⟩, Or.inl (hnw (by omega))⟩
        (hinv.owns.same (by simp [holder, hpc]))
    · obtain ⟨st', he⟩ : ∃ st', insert s.replay (reqs i).cred = (st', 0, 0) := ⟨_, Prod.ext rfl (hnew hp)⟩
      rw [he] at hok' hm ⊢
      exact hinv.upd hok' ⟨fun _ => ⟨Or.inl rfl, 0, rfl, rfl, rfl⟩, Or.inl (hnw (by omega))⟩
        (hinv.owns.add hp hm ⟨Nat.le_refl 1, rfl, hnw (by omega)⟩)
  · -- pc 1: the send
    rename_i hpc
    exact hinv.upd hinv.ok ⟨fun _ => hl.cons (by omega), Or.inl (hnw (by omega))⟩
      (hinv.owns.same (by simp [holder, hpc]))
  · -- pc 2: after the send
    rename_i hpc
    split
    · -- the send failed and the roll-back fires: by soundness `i` holds its key
      rename_i hcond
      simp only [Bool.and_eq_true, Bool.not_eq_true'] at hcond
      obtain ⟨hins01, errno, h1, h2, h3⟩ := hl.cons (by omega)
      have hhold : holder s i := ⟨by omega, hrb _ _ _ _ (h1 ▸ h2 ▸ hcond.2), hnw (by omega)⟩
      have hr := remove_spec hinv.ok (reqs i).cred
      exact hinv.upd hr.ok ⟨fun _ => ⟨hins01, errno, h1, h2, h3⟩, Or.inr ⟨rfl, hcond.1⟩⟩
        (hinv.owns.del hhold hr.has_iff fun h => Bool.noConfusion h.2.2)
    · exact hinv.upd hinv.ok ⟨fun _ => hl.cons (by omega), Or.inl (hnw (by omega))⟩
        (hinv.owns.same (by simp [holder, hpc]))
  · exact hinv

theorem concInv_run (rb : RollbackPred) (hrb : RollbackSound rb) (cfg : Cfg) (reqs : Nat → CReq)
    (base : Key → Prop) : ∀ (sched : List Nat) (s : Sys), ConcInv cfg reqs base s →
    ConcInv cfg reqs base (Sys.run rb cfg reqs s sched)
  | [], _, h => h
  | i :: rest, s, h => concInv_run rb hrb cfg reqs base rest _ (concInv_step rb hrb cfg reqs base s h i)

theorem concInv_init (cfg : Cfg) (reqs : Nat → CReq) (st : State) (hok : st.Ok) :
    ConcInv cfg reqs (fun k => st.has k) ⟨st, fun _ => {}⟩ := by
  -- every request is at `pc = 0`: nobody holds anything
  have hno : ∀ i, ¬ holder ⟨st, fun _ => {}⟩ i := fun i h => Nat.not_succ_le_zero 0 h.1
  exact ⟨hok, ⟨fun k => ⟨Or.inl, fun h => h.elim id fun ⟨i, hi, _⟩ => absurd hi (hno i)⟩,
      fun i _ hi => absurd hi (hno i), fun i hi => absurd hi (hno i)⟩,
    fun i => ⟨fun h => absurd h (Nat.not_succ_le_zero 0), Or.inl rfl⟩⟩

end Munge.Replay
