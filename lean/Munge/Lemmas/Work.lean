import Munge.Model.Work
/-
Invariants of the `Work` transition system for arbitrary `Params` meeting `Sound` (which `Props/C12.lean` proves of the
generated parameters).  `wrkStep_cases` says once what a worker step is: a worker that returns from `work_func` first
becomes a `starting` one again (`afterWork`), and every idle worker then goes through the top of the loop (`Tail`).  The
conservation invariant `InvA` (`IA` of the state's fields), the control invariant `InvB` and the variant are each proved by cases on that.
-/
namespace Munge.Work

@[simp] theorem item?_working (i : Nat) : (WPc.working i).item? = some i := rfl
@[simp] theorem item?_starting : WPc.starting.item? = none := rfl
@[simp] theorem item?_waitRecv (b : Bool) : (WPc.waitRecv b).item? = none := rfl
@[simp] theorem item?_cancelled : WPc.cancelled.item? = none := rfl
@[simp] theorem item?_crashed : WPc.crashed.item? = none := rfl

theorem item?_eq_some {pc : WPc} {i : Nat} : pc.item? = some i ↔ pc = .working i := by
  cases pc <;> simp

theorem held_mid (a b : List WPc) (pc : WPc) : held (a ++ pc :: b) = held a ++ pc.item?.toList ++ held b := by
  simp only [held, List.filterMap_append, List.filterMap_cons, List.append_assoc]
  cases pc.item? <;> rfl

theorem held_set {w : List WPc} {k : Nat} {pc : WPc} (v : WPc) (h : w[k]? = some pc) :
    ∃ a b, held w = a ++ pc.item?.toList ++ b ∧ held (w.set k v) = a ++ v.item?.toList ++ b := by
  obtain ⟨hk, rfl⟩ := List.getElem?_eq_some_iff.mp h
  refine ⟨_, _, ?_, by rw [List.set_eq_take_append_cons_drop, if_pos hk, held_mid]⟩
  conv => lhs; rw [← List.take_append_drop k w, List.drop_eq_getElem_cons hk, held_mid]

theorem held_length_le (w : List WPc) : (held w).length ≤ w.length := by
  unfold held; exact List.length_filterMap_le _ _

theorem mem_held {w : List WPc} {i : Nat} : i ∈ held w ↔ ∃ k : Nat, w[k]? = some (WPc.working i) := by
  rw [held, List.mem_filterMap]
  simp only [item?_eq_some, exists_eq_right, List.mem_iff_getElem?]

theorem held_eq_nil {w : List WPc} : held w = [] ↔ ∀ (k i : Nat), w[k]? ≠ some (WPc.working i) := by
  simp only [List.eq_nil_iff_forall_not_mem, mem_held, not_exists]
  exact ⟨fun h k i => h i k, fun h i k => h k i⟩

theorem getElem?_set_cases {w : List WPc} {k k' : Nat} {v pc : WPc} (h : (w.set k v)[k']? = some pc) :
    (k = k' ∧ pc = v) ∨ (k ≠ k' ∧ w[k']? = some pc) := by
  rw [List.getElem?_set] at h
  split at h
  · next e => split at h <;> cases h; exact .inl ⟨e, rfl⟩
  · next e => exact .inr ⟨e, h⟩

theorem mem_unwoken {w : List WPc} {k : Nat} : k ∈ unwoken w ↔ w[k]? = some (.waitRecv false) := by
  simp only [unwoken, List.mem_filter, List.mem_range, beq_iff_eq, and_iff_right_iff_imp]
  exact fun h => (List.getElem?_eq_some_iff.mp h).1

/-- the safety invariant over the fields it mentions (so that updates of other fields are invisible) -/
structure IA (P : Params) (n : Nat) (q : List Nat) (nw : Int) (w : List WPc) (acc dn lo : List Nat)
    (tk : List (Nat × Nat)) : Prop where
  len : w.length = n
  nodup : ∀ x, acc.count x ≤ 1
  cons : ∀ x, acc.count x = q.count x + (held w).count x + dn.count x + lo.count x
  cnt : nw = (held w).length + lo.length
  tak : ∀ x, acc.count x = q.count x + (tk.map Prod.snd).count x
  own : ∀ (k i : Nat), w[k]? = some (WPc.working i) → (k, i) ∈ tk
  lostm : P.masked = true → lo = []
  nocrash : ∀ k : Nat, w[k]? ≠ some WPc.crashed

/-- unfolds to `IA`, so `h.idle`, `h.take`, `h.cnt`, … on an `h : InvA P n s` are `IA.idle`, `IA.take`, `IA.cnt`, … -/
def InvA (P : Params) (n : Nat) (s : State) : Prop :=
  IA P n s.queue s.nWorking s.w s.accepted s.done s.lost s.taken

section
variable {P : Params} {n : Nat} {q q' : List Nat} {nw nw' : Int} {w : List WPc} {acc dn dn' lo lo' : List Nat}
  {tk tk' : List (Nat × Nat)} {k : Nat} {pc v : WPc}

/-- every worker step is a `w.set k v`: the ledgers move by what the old pc gives up and the new one takes -/
theorem IA.set (h : IA P n q nw w acc dn lo tk) (hk : w[k]? = some pc) (hc : v ≠ .crashed)
    (hcons : ∀ x, q'.count x + v.item?.toList.count x + dn'.count x + lo'.count x =
                  q.count x + pc.item?.toList.count x + dn.count x + lo.count x)
    (hcnt : nw' + pc.item?.toList.length + lo.length = nw + v.item?.toList.length + lo'.length)
    (htak : ∀ x, q'.count x + (tk'.map Prod.snd).count x = q.count x + (tk.map Prod.snd).count x)
    (hsub : ∀ e ∈ tk, e ∈ tk') (hown : ∀ i, v = .working i → (k, i) ∈ tk') (hlo : P.masked = true → lo' = []) :
    IA P n q' nw' (w.set k v) acc dn' lo' tk' := by
  obtain ⟨a, b, e, e'⟩ := held_set v hk
  exact {
    len := by simp [h.len]
    nodup := h.nodup
    cons := fun x => by have h1 := h.cons x; have := hcons x; simp only [e, e', List.count_append] at h1 ⊢; omega
    cnt := by have h1 := h.cnt; simp only [e, e', List.length_append] at h1 ⊢; omega
    tak := fun x => by rw [h.tak x, htak x]
    own := fun k' i hk' => by
      rcases getElem?_set_cases hk' with ⟨e, e'⟩ | ⟨_, e⟩
      · exact e ▸ hown i e'.symm
      · exact hsub _ (h.own k' i e)
    lostm := hlo
    nocrash := fun k' hk' => by
      rcases getElem?_set_cases hk' with ⟨_, e⟩ | ⟨_, e⟩
      · exact hc e.symm
      · exact h.nocrash k' e }

theorem IA.idle (h : IA P n q nw w acc dn lo tk) (hk : w[k]? = some pc)
    (hpc : pc.item? = none) (hv : v.item? = none) (hc : v ≠ .crashed) :
    IA P n q nw (w.set k v) acc dn lo tk :=
  h.set hk hc (fun _ => by rw [hpc, hv]) (by rw [hpc, hv]) (fun _ => rfl) (fun _ => id)
    (fun i e => by rw [e] at hv; cases hv) h.lostm

theorem IA.take {i : Nat} (h : IA P n (i :: q) nw w acc dn lo tk) (hk : w[k]? = some pc) (hpc : pc.item? = none) :
    IA P n q (nw + 1) (w.set k (.working i)) acc dn lo (tk ++ [(k, i)]) :=
  h.set hk (by simp) (fun x => by simp [hpc, List.count_cons]) (by simp [hpc])
    (fun x => by simp [List.count_cons]; omega) (fun _ => List.mem_append_left _) (fun j e => by cases e; simp) h.lostm

theorem IA.finish {i : Nat} (h : IA P n q nw w acc dn lo tk) (hk : w[k]? = some (.working i))
    (hv : v.item? = none) (hc : v ≠ .crashed) :
    IA P n q (nw - 1) (w.set k v) acc (dn ++ [i]) lo tk :=
  h.set hk hc (fun x => by simp [hv]; omega) (by simp [hv]) (fun _ => rfl) (fun _ => id)
    (fun j e => by rw [e] at hv; cases hv) h.lostm

theorem IA.lose {i : Nat} (h : IA P n q nw w acc dn lo tk) (hk : w[k]? = some (.working i)) (hm : P.masked = false) :
    IA P n q nw (w.set k .cancelled) acc dn (lo ++ [i]) tk :=
  h.set hk (by simp) (fun x => by simp; omega) (by simp; omega) (fun _ => rfl) (fun _ => id)
    (fun j e => by cases e) (by simp [hm])

theorem IA.enq {i : Nat} (h : IA P n q nw w acc dn lo tk) (hi : i ∉ acc) :
    IA P n (q ++ [i]) nw w (acc ++ [i]) dn lo tk :=
  { h with
    nodup := fun x => by
      have := h.nodup x
      by_cases hx : i = x
      · subst hx; have := List.count_eq_zero.mpr hi; simp; omega
      · simp [hx]; omega
    cons := fun x => by have := h.cons x; simp only [List.count_append]; omega
    tak := fun x => by have := h.tak x; simp only [List.count_append]; omega }

end

/-- hypothesis on the generated worker wait loop: wait exactly while the queue is empty -/
def RecvOk (P : Params) : Prop := ∀ N n q, P.recvWait N n q = !q

/-- what a worker does at the top of its loop, as a relation -/
inductive Tail (s : State) (k : Nat) : State → Prop
  | exit : s.cancelReq k = true → Tail s k { s with w := s.w.set k .cancelled }
  | block : s.queue = [] → Tail s k { s with w := s.w.set k (.waitRecv false) }
  | take (i : Nat) (q : List Nat) : s.queue = i :: q →
      Tail s k { s with queue := q, nWorking := s.nWorking + 1, w := s.w.set k (.working i), taken := s.taken ++ [(k, i)] }

/-- what `wakeMain` does to the stop's pc (`wakeMain_eq`) -/
def MPc.wake : MPc → MPc
  | .waitFin b _ => .waitFin b true
  | m => m

theorem wakeMain_eq (s : State) : wakeMain s = { s with main := s.main.wake } := by
  obtain ⟨q, nw, g, w, m, f, a, d, l, t⟩ := s
  cases m <;> rfl

theorem MPc.wake_cases (m : MPc) :
    (m.wake = m ∧ ∀ b, m ≠ .waitFin b false) ∨ ∃ b wk, m = .waitFin b wk ∧ m.wake = .waitFin b true := by
  cases m <;> simp [MPc.wake]

/-- the state in which a worker that has finished item `i` is back at the top of its loop, where a `starting` one is -/
def afterWork (P : Params) (s : State) (k i : Nat) : State :=
  { s with nWorking := s.nWorking - 1, done := s.done ++ [i], w := s.w.set k .starting,
           main := if P.signal s.nWorkers (s.nWorking - 1) s.qne then s.main.wake else s.main }

section
variable {P : Params} {n : Nat} {s s' : State} {k : Nat}

theorem loopTop_set (v : WPc) : loopTop P { s with w := s.w.set k v } k = loopTop P s k := by
  simp only [loopTop, takeOrWait, State.nWorkers, State.qne, List.set_set, List.length_set]
  rfl

theorem finishItem_eq (i : Nat) : finishItem P s k i = loopTop P (afterWork P s k i) k := by
  show loopTop P (if P.signal s.nWorkers (s.nWorking - 1) s.qne then wakeMain _ else _) k = _
  rw [wakeMain_eq, afterWork]
  by_cases h : P.signal s.nWorkers (s.nWorking - 1) s.qne = true
  · simp only [if_pos h]; exact (loopTop_set .starting).symm
  · simp only [if_neg h]; exact (loopTop_set .starting).symm

theorem takeOrWait_tail (hR : RecvOk P) : Tail s k (takeOrWait P s k) := by
  unfold takeOrWait
  rw [hR]
  cases hq : s.queue with
  | nil => simpa [State.qne, hq] using Tail.block hq
  | cons i q => simpa [State.qne, hq] using Tail.take i q hq

theorem loopTop_tail (hR : RecvOk P) : Tail s k (loopTop P s k) := by
  unfold loopTop
  split
  · next hc => exact .exit (by simp at hc; exact hc.2)
  · exact takeOrWait_tail hR

/-- the case between the two `Tail`s: a busy worker cancelled inside `work_func`, possible only if that is not masked -/
theorem wrkStep_cases (hR : RecvOk P) (hs : wrkStep P s k = some s') :
    (∃ pc, s.w[k]? = some pc ∧ pc.item? = none ∧ Tail s k s') ∨
    ∃ i, s.w[k]? = some (.working i) ∧
      ((P.masked = false ∧ s.cancelReq k = true ∧ s' = { s with w := s.w.set k .cancelled, lost := s.lost ++ [i] }) ∨
       Tail (afterWork P s k i) k s') := by
  unfold wrkStep at hs
  split at hs
  · next hk => cases hs; exact .inl ⟨_, hk, rfl, loopTop_tail hR⟩
  · next b hk =>
    cases hs; refine .inl ⟨_, hk, rfl, ?_⟩
    split
    · next hc => exact .exit hc
    · exact takeOrWait_tail hR
  · next i hk =>
    refine .inr ⟨i, hk, ?_⟩
    split at hs <;> cases hs
    · next hc => simp at hc; exact .inl ⟨hc.1, hc.2, rfl⟩
    · exact .inr (finishItem_eq i ▸ loopTop_tail hR)
  · cases hs

theorem Tail.invA {pc : WPc} (ht : Tail s k s') (h : InvA P n s) (hk : s.w[k]? = some pc) (hpc : pc.item? = none) :
    InvA P n s' := by
  cases ht with
  | exit _ => exact h.idle hk hpc rfl (by simp)
  | block _ => exact h.idle hk hpc rfl (by simp)
  | take i q hq => unfold InvA at h; rw [hq] at h; exact h.take hk hpc

theorem wrkStep_invA (hR : RecvOk P) (h : InvA P n s) (hs : wrkStep P s k = some s') : InvA P n s' := by
  rcases wrkStep_cases hR hs with ⟨pc, hk, hpc, ht⟩ | ⟨i, hk, ⟨hm, _, rfl⟩ | ht⟩
  · exact ht.invA h hk hpc
  · exact IA.lose h hk hm
  · exact ht.invA (IA.finish h hk rfl (by simp)) (List.getElem?_set_self (List.getElem?_eq_some_iff.mp hk).1) rfl

theorem step_invA (hR : RecvOk P) (h : InvA P n s) {a : Act} (hs : step P s a = some s') : InvA P n s' := by
  cases a with
  | wrk k => exact wrkStep_invA hR h hs
  | enq i =>
    obtain ⟨hc, hs⟩ := Option.ite_none_right_eq_some.mp hs
    split at hs <;> cases hs
    · exact h
    · split <;> exact IA.enq h hc.2
  | sig r =>
    obtain ⟨_, hs⟩ := Option.ite_none_right_eq_some.mp hs; cases hs
    split
    · next k hk => exact IA.idle h (mem_unwoken.mp (List.mem_of_getElem? hk)) rfl rfl (by simp)
    · exact h
  -- the remaining steps of the stop change none of the fields `IA` speaks of
  | waitCall | fini _ => obtain ⟨_, hs⟩ := Option.ite_none_right_eq_some.mp hs; cases hs; split <;> exact h
  | join => obtain ⟨_, hs⟩ := Option.ite_none_right_eq_some.mp hs; cases hs; exact h
  | mainWake | cancelOne =>
    simp only [step] at hs
    split at hs <;> cases hs
    repeat' split
    all_goals exact h

theorem init_invA (P : Params) (n : Nat) : InvA P n (init n) := by
  have hw : ∀ (k : Nat) (pc : WPc), (init n).w[k]? = some pc → pc = .starting := fun k pc hk => by
    simp only [init, List.getElem?_replicate] at hk; split at hk <;> cases hk; rfl
  have hh : held (init n).w = [] := held_eq_nil.mpr fun k i hk => by cases hw k _ hk
  exact {
    len := List.length_replicate
    nodup := fun _ => Nat.zero_le _
    cons := fun _ => by rw [hh]; rfl
    cnt := by rw [hh]; rfl
    tak := fun _ => rfl
    own := fun k i hk => by cases hw k _ hk
    lostm := fun _ => rfl
    nocrash := fun k hk => by cases hw k _ hk }

theorem reachable_invA (hR : RecvOk P) (hr : Reachable P n s) : InvA P n s := by
  induction hr with
  | init => exact init_invA P n
  | step a _ hs ih => exact step_invA hR ih hs

theorem InvA.nWorking_nonneg (h : InvA P n s) : 0 ≤ s.nWorking := by
  have := h.cnt; omega

theorem InvA.nWorking_pos (h : InvA P n s) {i : Nat} (hk : s.w[k]? = some (.working i)) : 1 ≤ s.nWorking := by
  have := h.cnt
  have := List.length_pos_of_mem (mem_held.mpr ⟨k, hk⟩)
  omega

theorem InvA.exists_working (h : InvA P n s) (hm : P.masked = true) (hpos : 0 < s.nWorking) :
    ∃ (k i : Nat), s.w[k]? = some (.working i) := by
  have hc := h.cnt
  rw [h.lostm hm] at hc
  obtain ⟨i, hi⟩ := List.exists_mem_of_length_pos (l := held s.w) (by simp at hc; omega)
  exact (mem_held.mp hi).imp fun k hk => ⟨i, hk⟩

theorem InvA.exactly_once (h : InvA P n s) (hm : P.masked = true) :
    s.lost = [] ∧ s.nWorking = (held s.w).length ∧ s.accepted.Nodup ∧ s.accepted.Perm (s.queue ++ held s.w ++ s.done) ∧
    (s.taken.map Prod.snd).Nodup ∧ (s.taken.map Prod.snd).Perm (held s.w ++ s.done) := by
  have hl := h.lostm hm
  have hc := h.cons
  have hcnt := h.cnt
  simp only [hl, List.count_nil, Nat.add_zero, List.length_nil] at hc hcnt
  have ht : ∀ x, (s.taken.map Prod.snd).count x = (held s.w).count x + s.done.count x := fun x => by
    have := hc x; have := h.tak x; omega
  refine ⟨hl, by simpa using hcnt, List.nodup_iff_count.mpr h.nodup, ?_, ?_, ?_⟩
  · exact List.perm_iff_count.mpr fun x => by simp only [List.count_append]; rw [hc x]
  · exact List.nodup_iff_count.mpr fun x => by have := h.nodup x; have := hc x; have := ht x; omega
  · exact List.perm_iff_count.mpr fun x => by simp only [List.count_append]; rw [ht x]

end

/-- the specification of the loop conditions of `work_wait` / `work_fini`: wait exactly while something is queued or in
    progress -/
def WaitsUntilIdle (p : Int → Int → Bool → Bool) : Prop := ∀ N n q, 0 ≤ n → (p N n q = true ↔ ¬ (n = 0 ∧ q = false))

/-- for C12: a wait condition of that form is the negation of a signal condition that is exactly "idle" -/
theorem eq_not_of_iff {a b : Bool} {p : Prop} (ha : a = true ↔ ¬ p) (hb : b = true ↔ p) : a = !b := by
  cases b <;> simp_all

/-- what the theorems need from the generated parameters; the facts about the wait/signal predicates are guarded by
    `W` so that the invariants that do not depend on them (`W := False`) are available separately -/
structure Sound (W : Prop) (P : Params) : Prop where
  recv : RecvOk P
  idle : ∀ N n q, 0 ≤ n → n < N → P.idle N n q = true
  masked : P.masked = true
  waitW : W → ∀ N n q, 0 ≤ n → (P.waitW N n q = true ↔ ¬ (n = 0 ∧ q = false))
  waitF : W → ∀ N n q, 0 ≤ n → (P.waitF N n q = true ↔ ¬ (n = 0 ∧ q = false))
  signal : W → ∀ N n q, 0 ≤ n → (n = 0 ∧ q = false) → P.signal N n q = true
  finiWaits : W → P.finiWaits true = true

theorem Sound.waitsW {W : Prop} {P : Params} (hS : Sound W P) (hW : W) : WaitsUntilIdle P.waitW := hS.waitW hW
theorem Sound.waitsF {W : Prop} {P : Params} (hS : Sound W P) (hW : W) : WaitsUntilIdle P.waitF := hS.waitF hW

/-- the stop is inside `work_fini`: there, and only there, `got_fini` is set (`InvB.fini`) -/
def MPc.inFini : MPc → Bool
  | .waitFin true _ => true
  | .cancelling _ => true
  | .joining => true
  | .finished => true
  | _ => false

/-- the stop has left its wait phase -/
def MPc.postWait : MPc → Bool
  | .cancelling _ => true
  | .joining => true
  | .finished => true
  | _ => false

/-- the control invariant; its last three fields: a queued item has someone to take it, a waiter is not waiting in vain,
    a graceful stop cancels only once everything is done -/
structure InvB (W : Prop) (P : Params) (s : State) : Prop where
  idx : ∀ j, s.main = .cancelling j → j < s.w.length
  fini : s.gotFini = s.main.inFini
  exited : ∀ k : Nat, s.w[k]? = some WPc.cancelled → s.cancelReq k = true
  joined : s.main = .finished → ∀ pc ∈ s.w, pc = WPc.cancelled
  wakeup : s.main.postWait = false → s.queue ≠ [] →
        s.main = .signalling ∨ ∃ (k : Nat) (pc : WPc), s.w[k]? = some pc ∧ pc.runnable = true
  waiting : W → ∀ b, s.main = .waitFin b false → ¬ (s.nWorking = 0 ∧ s.queue = [])
  drained : W → s.finiArg = true → s.main.postWait = true → s.queue = [] ∧ s.nWorking = 0

theorem cancelReq_false_of_not_postWait {s : State} (h : s.main.postWait = false) (k : Nat) : s.cancelReq k = false := by
  unfold State.cancelReq; cases hm : s.main <;> simp_all [MPc.postWait]

section
variable {W : Prop} {P : Params} {n : Nat} {s s' : State} {k : Nat} {pc v : WPc}

theorem InvB.no_cancelled (h : InvB W P s) (hp : s.main.postWait = false) (k : Nat) : s.w[k]? ≠ some .cancelled := by
  intro hk; have := h.exited k hk; rw [cancelReq_false_of_not_postWait hp] at this; cases this

theorem InvB.no_cancelled_set (h : InvB W P s) (hp : s.main.postWait = false) (hv : v ≠ .cancelled) (k' : Nat) :
    (s.w.set k v)[k']? ≠ some .cancelled := fun hk' => by
  rcases getElem?_set_cases hk' with ⟨_, e⟩ | ⟨_, e⟩
  · exact hv e.symm
  · exact h.no_cancelled hp k' e

/-- `InvB` while the stop has not left its wait: `idx`, `joined`, `drained` are vacuous and no worker has exited (`hc`) -/
theorem InvB.of_pre (hp : s.main.postWait = false) (hf : s.gotFini = s.main.inFini)
    (hc : ∀ k : Nat, s.w[k]? ≠ some .cancelled)
    (hw : s.queue ≠ [] → s.main = .signalling ∨ ∃ (k : Nat) (pc : WPc), s.w[k]? = some pc ∧ pc.runnable = true)
    (hwt : W → ∀ b, s.main = .waitFin b false → ¬ (s.nWorking = 0 ∧ s.queue = [])) : InvB W P s :=
  { idx := fun _ e => by rw [e] at hp; cases hp
    fini := hf
    exited := fun k hk => absurd hk (hc k)
    joined := fun e => by rw [e] at hp; cases hp
    wakeup := fun _ => hw
    waiting := hwt
    drained := fun _ _ e => by rw [e] at hp; cases hp }

/-- the control-side counterpart of `IA.set`, for a worker step that leaves the stop's pc alone (`hwk`: a queue left
    non-empty has the stepping worker itself to take from it) -/
theorem InvB.set {q' dn' : List Nat} {nw' : Int} {tk' : List (Nat × Nat)} (h : InvB W P s)
    (hk : s.w[k]? = some pc) (hpc : pc ≠ .cancelled) (hv : v = .cancelled → s.cancelReq k = true)
    (hwk : s.main.postWait = false → q' ≠ [] → v.runnable = true)
    (hwt : W → ∀ b, s.main = .waitFin b false → ¬ (nw' = 0 ∧ q' = []))
    (hdr : W → s.finiArg = true → s.main.postWait = true → q' = [] ∧ nw' = 0) :
    InvB W P { s with queue := q', nWorking := nw', w := s.w.set k v, done := dn', taken := tk' } where
  idx := by simpa using h.idx
  fini := h.fini
  exited := fun k' hk' => by
    rcases getElem?_set_cases hk' with ⟨e, e'⟩ | ⟨_, e⟩
    · exact e ▸ hv e'.symm
    · exact h.exited k' e
  joined := fun hm => absurd (h.joined hm _ (List.mem_of_getElem? hk)) hpc
  wakeup := fun hp hq => .inr ⟨k, v, List.getElem?_set_self (List.getElem?_eq_some_iff.mp hk).1, hwk hp hq⟩
  waiting := hwt
  drained := hdr

theorem Tail.invB (ht : Tail s k s') (h : InvB W P s) (hnw : 0 ≤ s.nWorking)
    (hk : s.w[k]? = some pc) (hpc : pc ≠ .cancelled) : InvB W P s' := by
  cases ht with
  | exit hc =>
    have hpw : s.main.postWait ≠ false := fun hp => by rw [cancelReq_false_of_not_postWait hp k] at hc; cases hc
    exact h.set hk hpc (fun _ => hc) (fun hp => absurd hp hpw) h.waiting h.drained
  | block hq' => exact h.set hk hpc nofun (fun _ hq => absurd hq' hq) h.waiting h.drained
  | take i q hiq =>
    refine h.set hk hpc nofun (fun _ _ => rfl) (fun _ b _ => by omega) fun hW ha hp => ?_
    have := (h.drained hW ha hp).1; simp [hiq] at this

theorem afterWork_invB (hS : Sound W P) (h : InvB W P s) {i : Nat} (hk : s.w[k]? = some (.working i))
    (hpos : 1 ≤ s.nWorking) : InvB W P (afterWork P s k i) := by
  have hdr : W → s.finiArg = true → s.main.postWait = true → s.queue = [] ∧ s.nWorking - 1 = 0 := fun hW a b => by
    have := (h.drained hW a b).2; omega
  unfold afterWork
  split
  · rcases s.main.wake_cases with ⟨e, hne⟩ | ⟨b, wk, e1, e2⟩
    · rw [e]
      exact h.set hk nofun nofun (fun _ _ => rfl) (fun _ b hb => absurd hb (hne b)) hdr
    · rw [e2]
      exact .of_pre rfl (h.fini.trans (by rw [e1]; cases b <;> rfl)) (h.no_cancelled_set (by rw [e1]; rfl) nofun)
        (fun _ => .inr ⟨k, _, List.getElem?_set_self (List.getElem?_eq_some_iff.mp hk).1, rfl⟩) nofun
  -- no signal: had the stop been left waiting in vain, the signal would have been sent (`Sound.signal`)
  · next hsig =>
    exact h.set hk nofun nofun (fun _ _ => rfl)
      (fun hW _ _ ⟨z1, z2⟩ => hsig (hS.signal hW _ _ _ (by omega) ⟨z1, by simpa [State.qne] using z2⟩)) hdr

theorem wrkStep_invB (hS : Sound W P) (hA : InvA P n s) (h : InvB W P s)
    (hs : wrkStep P s k = some s') : InvB W P s' := by
  rcases wrkStep_cases hS.recv hs with ⟨pc, hk, hpc, ht⟩ | ⟨i, hk, ⟨hm, _⟩ | ht⟩
  · exact ht.invB h hA.nWorking_nonneg hk (by rintro rfl; simp [wrkStep, hk] at hs)
  · rw [hS.masked] at hm; cases hm
  · have hpos := hA.nWorking_pos hk
    exact ht.invB (afterWork_invB hS h hk hpos) (by show 0 ≤ s.nWorking - 1; omega)
      (List.getElem?_set_self (List.getElem?_eq_some_iff.mp hk).1) nofun

theorem waits_iff {p : Int → Int → Bool → Bool} (hp : WaitsUntilIdle p) (hn : 0 ≤ s.nWorking) :
    p s.nWorkers s.nWorking s.qne = true ↔ ¬ (s.nWorking = 0 ∧ s.queue = []) := by
  rw [hp _ _ _ hn]; simp [State.qne]

theorem idle_of_not_waits {p : Int → Int → Bool → Bool} (hp : WaitsUntilIdle p) (hn : 0 ≤ s.nWorking)
    (hw : ¬ p s.nWorkers s.nWorking s.qne = true) : s.queue = [] ∧ s.nWorking = 0 := by
  have := Classical.not_not.mp (mt (waits_iff hp hn).mpr hw); exact ⟨this.2, this.1⟩

/-- a step on which `work_wait` returns, or the wait of `work_fini (wp, 1)` is left or not entered: on the first test of
    the loop condition or after any wake-up -/
theorem leaves_wait_idle (hW : WaitsUntilIdle P.waitW) (hF : WaitsUntilIdle P.waitF) (hd : P.finiWaits true = true)
    (hn : 0 ≤ s.nWorking) {a : Act} (hs : step P s a = some s')
    (ha : a = .waitCall ∨ a = .fini true ∨ a = .mainWake)
    (hleft : ∀ b wk, s'.main ≠ .waitFin b wk) : s'.queue = [] ∧ s'.nWorking = 0 := by
  rcases ha with rfl | rfl | rfl
  · obtain ⟨_, hs⟩ := Option.ite_none_right_eq_some.mp hs; cases hs
    split at hleft
    · exact absurd rfl (hleft _ _)
    · next hw => rw [if_neg hw]; exact idle_of_not_waits hW hn hw
  · obtain ⟨_, hs⟩ := Option.ite_none_right_eq_some.mp hs; cases hs
    split at hleft
    · exact absurd rfl (hleft _ _)
    · next hw => rw [if_neg hw]; exact idle_of_not_waits hF hn fun hc => hw (by rw [hd]; exact hc)
  · simp only [step] at hs
    split at hs <;> cases hs
    next b wk hm =>
    have hp : WaitsUntilIdle (if b = true then P.waitF else P.waitW) := by cases b <;> assumption
    generalize (if b = true then P.waitF else P.waitW) = p at hp hleft ⊢
    split at hleft
    · exact absurd rfl (hleft _ _)
    · next hw => rw [if_neg hw]; exact idle_of_not_waits hp hn hw

theorem WPc.runnable_iff : pc.runnable = true ↔ pc ≠ .waitRecv false ∧ pc ≠ .cancelled ∧ pc ≠ .crashed := by
  cases pc <;> simp [WPc.runnable]

theorem step_invB (hn : 0 < n) (hS : Sound W P) (hA : InvA P n s) (h : InvB W P s) {a : Act}
    (hs : step P s a = some s') : InvB W P s' := by
  have hlen : 0 < s.w.length := by rw [hA.len]; exact hn
  have hnn := hA.nWorking_nonneg
  cases a with
  | wrk k => exact wrkStep_invB hS hA h hs
  | enq i =>
    obtain ⟨⟨hm, _⟩, hs⟩ := Option.ite_none_right_eq_some.mp hs
    have hp : s.main.postWait = false := by rw [hm]; rfl
    have hg : s.gotFini = false := by rw [h.fini, hm]; rfl
    rw [if_neg (by simp [hg])] at hs; cases hs
    split
    · exact .of_pre rfl hg (h.no_cancelled hp) (fun _ => .inl rfl) nofun
    · next hid =>
      refine .of_pre hp h.fini (h.no_cancelled hp) (fun _ => .inr ?_) (fun _ b e => by rw [hm] at e; cases e)
      -- no signal is due only if every worker is busy: then one of them holds an item
      have hge : ¬ s.nWorking < s.nWorkers := fun hlt => hid (hS.idle _ _ _ hnn hlt)
      obtain ⟨k, j, hk⟩ := hA.exists_working hS.masked (by simp only [State.nWorkers] at hge; omega)
      exact ⟨k, _, hk, rfl⟩
  | sig r =>
    obtain ⟨hm, hs⟩ := Option.ite_none_right_eq_some.mp hs; cases hs
    have hp : s.main.postWait = false := by rw [hm]; rfl
    have hg : s.gotFini = false := by rw [h.fini, hm]; rfl
    split
    · next k hk =>
      have hu := mem_unwoken.mp (List.mem_of_getElem? hk)
      exact .of_pre rfl hg (h.no_cancelled_set hp nofun)
        (fun _ => .inr ⟨k, _, List.getElem?_set_self (List.getElem?_eq_some_iff.mp hu).1, rfl⟩) nofun
    · next hnone =>
      refine .of_pre rfl hg (h.no_cancelled hp) (fun _ => .inr ?_) nofun
      -- nobody is waiting unsignalled, nobody has exited or crashed: worker 0 is runnable
      have hu : s.w[0]? ≠ some (.waitRecv false) := fun e => by
        have := Nat.mod_lt r (List.length_pos_of_mem (mem_unwoken.mpr e))
        have := List.getElem?_eq_none_iff.mp hnone
        omega
      have h0 : s.w[0]? = some s.w[0] := List.getElem?_eq_getElem hlen
      exact ⟨0, _, h0, WPc.runnable_iff.mpr
        ⟨fun e => hu (e ▸ h0), fun e => h.no_cancelled hp 0 (e ▸ h0), fun e => hA.nocrash 0 (e ▸ h0)⟩⟩
  | waitCall =>
    obtain ⟨hm, hs⟩ := Option.ite_none_right_eq_some.mp hs; cases hs
    have hp : s.main.postWait = false := by rw [hm]; rfl
    split
    · next hw =>
      exact .of_pre rfl (by simpa [hm, MPc.inFini] using h.fini) (h.no_cancelled hp)
        (fun hq => .inr ((h.wakeup hp hq).resolve_left (by rw [hm]; nofun))) fun hW _ _ => (waits_iff (hS.waitsW hW) hnn).mp hw
    · exact h
  | fini d =>
    obtain ⟨hm, hs⟩ := Option.ite_none_right_eq_some.mp hs; cases hs
    have hp : s.main.postWait = false := by rw [hm]; rfl
    have hnoc := h.no_cancelled hp
    split
    · next hw =>
      simp only [Bool.and_eq_true] at hw
      exact .of_pre rfl rfl hnoc (fun hq => .inr ((h.wakeup hp hq).resolve_left (by rw [hm]; nofun)))
        fun hW _ _ => (waits_iff (hS.waitsF hW) hnn).mp hw.2
    · next hw =>
      refine { idx := by simpa using hlen, fini := rfl, exited := fun k hk => absurd hk (hnoc k), joined := nofun,
               wakeup := nofun, waiting := nofun, drained := fun hW hd _ => ?_ }
      have hd : d = true := hd
      rw [hd, hS.finiWaits hW] at hw
      exact idle_of_not_waits (hS.waitsF hW) hnn hw
  | mainWake =>
    -- the stop re-tests its loop condition `p` (`waitF` inside `work_fini`, else `waitW`): it waits on, or leaves with
    -- everything idle
    simp only [step] at hs
    split at hs <;> cases hs
    next b wk hm =>
    have hp : s.main.postWait = false := by rw [hm]; rfl
    have hnoc := h.no_cancelled hp
    have hwake := h.wakeup hp
    have hfini : s.gotFini = b := by rw [h.fini, hm]; cases b <;> rfl
    rw [hm] at hwake
    have hpspec : W → WaitsUntilIdle (if b = true then P.waitF else P.waitW) := by
      intro hW; cases b
      · exact hS.waitsW hW
      · exact hS.waitsF hW
    generalize (if b = true then P.waitF else P.waitW) = p at hpspec ⊢
    split
    · next hw =>
      exact .of_pre rfl (by rw [hfini]; cases b <;> rfl) hnoc (fun hq => .inr ((hwake hq).resolve_left nofun))
        fun hW _ _ => (waits_iff (hpspec hW) hnn).mp hw
    · next hw =>
      cases b
      · exact .of_pre rfl hfini hnoc (fun hq => .inr ((hwake hq).resolve_left nofun)) nofun
      · exact { idx := by simpa [afterWait] using hlen, fini := hfini, exited := fun k hk => absurd hk (hnoc k),
                joined := nofun, wakeup := nofun, waiting := nofun,
                drained := fun hW _ _ => idle_of_not_waits (s := s) (hpspec hW) hnn hw }
  | cancelOne =>
    simp only [step] at hs
    split at hs <;> cases hs
    next j hm =>
    -- in `cancelling j` the workers below `j` have been cancelled, and this step cancels worker `j`
    have hex : ∀ k : Nat, s.w[k]? = some WPc.cancelled → k < j := fun k hk => by
      simpa [State.cancelReq, hm] using h.exited k hk
    have hdr := h.drained
    have hfini := h.fini
    rw [hm] at hdr hfini
    split
    · exact { idx := by simp; omega, fini := by simpa [MPc.inFini] using hfini,
              exited := fun k hk => by have := hex k hk; simp [State.cancelReq]; omega,
              joined := nofun, wakeup := nofun, waiting := nofun, drained := fun hW a _ => hdr hW a rfl }
    · exact { idx := nofun, fini := by simpa [MPc.inFini] using hfini, exited := fun k hk => by simp [State.cancelReq],
              joined := nofun, wakeup := nofun, waiting := nofun, drained := fun hW a _ => hdr hW a rfl }
  | join =>
    obtain ⟨⟨hm, hall⟩, hs⟩ := Option.ite_none_right_eq_some.mp hs; cases hs
    have hdr := h.drained
    have hfini := h.fini
    rw [hm] at hdr hfini
    exact { idx := nofun, fini := by simpa [MPc.inFini] using hfini, exited := fun k hk => by simp [State.cancelReq],
            joined := fun _ pc hpc => by simpa using List.all_eq_true.mp hall pc hpc,
            wakeup := nofun, waiting := nofun, drained := fun hW a _ => hdr hW a rfl }

theorem init_invB (P : Params) : InvB W P (init n) :=
  .of_pre rfl rfl (fun k hk => by simp [init, List.getElem?_replicate] at hk) (fun h => absurd rfl h) nofun

theorem reachable_inv (hn : 0 < n) (hS : Sound W P) (hr : Reachable P n s) : InvA P n s ∧ InvB W P s := by
  induction hr with
  | init => exact ⟨init_invA P n, init_invB P⟩
  | step a _ hs ih => exact ⟨step_invA hS.recv ih.1 hs, step_invB hn hS ih.1 ih.2 hs⟩

/-- a worker step that leaves the `measure` alone changes neither the queue nor `nWorking` nor the items done -/
def Quiet (s s' : State) : Prop := s'.queue = s.queue ∧ s'.nWorking = s.nWorking ∧ s'.done = s.done

theorem Tail.var (ht : Tail s k s') :
    (s.queue ≠ [] ∧ s.cancelReq k = false → measure s' < measure s) ∧ (measure s' < measure s ∨ Quiet s s') := by
  cases ht with
  | exit hc => exact ⟨fun h => by simp [hc] at h, .inr ⟨rfl, rfl, rfl⟩⟩
  | block hq => exact ⟨fun h => absurd hq h.1, .inr ⟨rfl, rfl, rfl⟩⟩
  | take i q hq =>
    refine ⟨fun _ => ?_, .inl ?_⟩ <;> (simp only [measure, hq, List.length_cons]; omega)

theorem Tail.lt_of_afterWork {i : Nat} (ht : Tail (afterWork P s k i) k s') : measure s' < measure s := by
  have : measure (afterWork P s k i) = measure s - 1 := by simp only [measure, afterWork]; omega
  rcases ht.var.2 with h | h
  · omega
  · simp only [measure, h.1, h.2.1] at this ⊢; omega

theorem wrkStep_var (hR : RecvOk P) (hs : wrkStep P s k = some s') : measure s' < measure s ∨ Quiet s s' := by
  rcases wrkStep_cases hR hs with ⟨pc, hk, hpc, ht⟩ | ⟨i, hk, ⟨hm, _, rfl⟩ | ht⟩
  · exact ht.var.2
  · exact .inr ⟨rfl, rfl, rfl⟩
  · exact .inl ht.lt_of_afterWork

theorem wrkStep_enabled (hk : s.w[k]? = some pc) (h1 : pc ≠ .cancelled) (h2 : pc ≠ .crashed) :
    ∃ s', wrkStep P s k = some s' := by
  unfold wrkStep
  rw [hk]
  cases pc with
  | working i => dsimp only; split <;> exact ⟨_, rfl⟩
  | cancelled => exact absurd rfl h1
  | crashed => exact absurd rfl h2
  | _ => exact ⟨_, rfl⟩

theorem wrk_productive (hR : RecvOk P) (hp : s.main.postWait = false) (hk : s.w[k]? = some pc)
    (hrun : pc.runnable = true) (hw : pc.item?.isSome = true ∨ s.queue ≠ []) :
    ∃ s', step P s (.wrk k) = some s' ∧ measure s' < measure s := by
  have hc := cancelReq_false_of_not_postWait hp k
  obtain ⟨s', hs⟩ := wrkStep_enabled (P := P) hk (by rintro rfl; cases hrun) (by rintro rfl; cases hrun)
  refine ⟨s', hs, ?_⟩
  rcases wrkStep_cases hR hs with ⟨pc', hk', hpc, ht⟩ | ⟨i, hk', ⟨_, hc', _⟩ | ht⟩
  · rw [hk] at hk'; cases hk'
    exact ht.var.1 ⟨by simpa [hpc] using hw, hc⟩
  · rw [hc] at hc'; cases hc'
  · exact ht.lt_of_afterWork

end

end Munge.Work
