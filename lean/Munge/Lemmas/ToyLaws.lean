import Munge.Model.ToyPrims
import Munge.Model.PrimLaws
import Munge.Lemmas.Kernel
/- The toy primitives satisfy `PrimLaws`: the hypotheses of the credential theorems are satisfiable. -/
namespace Munge.ToyPrims
open Munge.Cred Munge.C

theorem absorb_size (s : MacSt) (b : UInt8) : (absorb s b).h.size = s.h.size := by
  simp [absorb]

theorem foldl_size {α : Type} (f : MacSt → α → MacSt) (hf : ∀ s a, (f s a).h.size = s.h.size)
    (l : List α) (s : MacSt) : (l.foldl f s).h.size = s.h.size := by
  induction l generalizing s with
  | nil => rfl
  | cons a l ih => rw [List.foldl_cons, ih, hf]

theorem macFinal_length (s : MacSt) : (macFinal s).length = s.h.size := by
  unfold macFinal
  simp only [Array.length_toList]
  exact foldl_size _ (fun st r => absorb_size st _) _ s

theorem macInit_size (t : Nat) (key : Bytes) : (macInit t key).h.size = (macLen t).toNat := by
  unfold macInit
  simp only [absorb_size]
  rw [foldl_size _ absorb_size]
  simp

theorem mac_length' (t : Nat) (k x : Bytes) (h : macLen t > 0) : ((mac t k x).length : Int) = macLen t := by
  unfold mac
  rw [if_neg (by omega), macFinal_length, foldl_size _ absorb_size, macInit_size]
  omega

theorem macLen_cases (t : Nat) : macLen t = -1 ∨ macLen t = 16 ∨ macLen t = 20 ∨ macLen t = 32 ∨ macLen t = 64 := by
  unfold macLen; split <;> simp
theorem blk_cases (c : Nat) : (blk c = -1 ∧ klen c = -1) ∨ (blk c = 8 ∧ klen c = 16) ∨ (blk c = 16 ∧ klen c = 16) ∨ (blk c = 16 ∧ klen c = 32) := by
  unfold blk klen; split <;> simp

theorem map_range_eq {a : Bytes} {f : Nat → UInt8} (h : ∀ i, i < a.length → f i = a.getD i 0) :
    (List.range a.length).map f = a := by
  apply List.ext_getElem
  · simp
  · intro i h1 h2
    simp only [List.getElem_map, List.getElem_range]
    rw [h i h2, List.getD_eq_getElem?_getD, List.getElem?_eq_getElem h2]; rfl

theorem getD_map_range {n i : Nat} {f : Nat → UInt8} (h : i < n) : ((List.range n).map f).getD i 0 = f i := by
  rw [List.getD_eq_getElem?_getD, List.getElem?_map, List.getElem?_range h]; rfl

@[simp] theorem xorB_length (a b : Bytes) : (xorB a b).length = a.length := by simp [xorB]
@[simp] theorem blkE_length (k : Bytes) (kl : Nat) (b : Bytes) : (blkE k kl b).length = b.length := by simp [blkE]
@[simp] theorem blkD_length (k : Bytes) (kl : Nat) (b : Bytes) : (blkD k kl b).length = b.length := by simp [blkD]

theorem xorB_xorB (a b : Bytes) : xorB (xorB a b) b = a := by
  unfold xorB
  simp only [List.length_map, List.length_range]
  apply map_range_eq
  intro i hi
  rw [getD_map_range hi, UInt8.xor_assoc, UInt8.xor_self, UInt8.xor_zero]

theorem blkD_blkE (k : Bytes) (kl : Nat) (b : Bytes) : blkD k kl (blkE k kl b) = b := by
  unfold blkD blkE
  simp only [List.length_map, List.length_range]
  apply map_range_eq
  intro i hi
  rw [getD_map_range hi, UInt8.add_sub_cancel, UInt8.xor_assoc, UInt8.xor_self, UInt8.xor_zero]

theorem blkE_blkD (k : Bytes) (kl : Nat) (b : Bytes) : blkE k kl (blkD k kl b) = b := by
  unfold blkD blkE
  simp only [List.length_map, List.length_range]
  apply map_range_eq
  intro i hi
  rw [getD_map_range hi, UInt8.xor_assoc, UInt8.xor_self, UInt8.xor_zero, UInt8.sub_add_cancel]

theorem cbcEnc_block (key : Bytes) (kl : Nat) {bl : Nat} (hbl : 0 < bl) (prev : Bytes) (fuel : Nat) {b : Bytes}
    (rest : Bytes) (hb : b.length = bl) :
    cbcEnc key kl bl prev (fuel + 1) (b ++ rest) =
      blkE key kl (xorB b prev) ++ cbcEnc key kl bl (blkE key kl (xorB b prev)) fuel rest := by
  have hne : ¬ (b ++ rest).isEmpty := by rw [List.isEmpty_iff_length_eq_zero, List.length_append]; omega
  rw [cbcEnc, if_neg hne, ← hb, List.take_left, List.drop_left]

theorem cbcDec_block (key : Bytes) (kl : Nat) {bl : Nat} (hbl : 0 < bl) (prev : Bytes) (fuel : Nat) {b : Bytes}
    (rest : Bytes) (hb : b.length = bl) :
    cbcDec key kl bl prev (fuel + 1) (b ++ rest) = xorB (blkD key kl b) prev ++ cbcDec key kl bl b fuel rest := by
  have hne : ¬ (b ++ rest).isEmpty := by rw [List.isEmpty_iff_length_eq_zero, List.length_append]; omega
  rw [cbcDec, if_neg hne, ← hb, List.take_left, List.drop_left]

/-- Induction for a CBC run over `n` whole blocks with fuel for them; the hypothesis holds whatever the chaining value. -/
@[elab_as_elim]
theorem cbc_induction {bl : Nat} {motive : Bytes → Nat → Bytes → Prop} (nil : ∀ prev fuel, motive prev fuel [])
    (block : ∀ prev fuel b rest, b.length = bl → (∀ prev', motive prev' fuel rest) →
      motive prev (fuel + 1) (b ++ rest))
    {n : Nat} {p : Bytes} (hp : p.length = n * bl) (prev : Bytes) {fuel : Nat} (hf : n ≤ fuel) :
    motive prev fuel p := by
  induction n generalizing p prev fuel with
  | zero => rw [List.eq_nil_of_length_eq_zero (by omega : p.length = 0)]; exact nil prev fuel
  | succ n ih =>
    obtain ⟨fuel, rfl⟩ : ∃ f, fuel = f + 1 := ⟨fuel - 1, by omega⟩
    rw [Nat.succ_mul] at hp
    rw [← List.take_append_drop bl p]
    exact block prev fuel _ _ (by rw [List.length_take]; omega)
      fun prev' => ih (by rw [List.length_drop]; omega) prev' (by omega)

theorem cbcEnc_length {bl n : Nat} {p : Bytes} (hbl : 0 < bl) (hp : p.length = n * bl) (key : Bytes) (kl : Nat)
    (prev : Bytes) (fuel : Nat) (hf : n ≤ fuel) : (cbcEnc key kl bl prev fuel p).length = p.length := by
  refine cbc_induction (fun prev fuel => by cases fuel <;> simp [cbcEnc]) (fun prev fuel b rest hb ih => ?_) hp prev hf
  rw [cbcEnc_block key kl hbl prev fuel rest hb, List.length_append, ih]
  simp

theorem cbcDec_length {bl n : Nat} {c : Bytes} (hbl : 0 < bl) (hc : c.length = n * bl) (key : Bytes) (kl : Nat)
    (prev : Bytes) (fuel : Nat) (hf : n ≤ fuel) : (cbcDec key kl bl prev fuel c).length = c.length := by
  refine cbc_induction (fun prev fuel => by cases fuel <;> simp [cbcDec]) (fun prev fuel b rest hb ih => ?_) hc prev hf
  rw [cbcDec_block key kl hbl prev fuel rest hb, List.length_append, ih]
  simp

theorem cbcDec_cbcEnc {bl n : Nat} {p : Bytes} (hbl : 0 < bl) (hp : p.length = n * bl) (key : Bytes) (kl : Nat)
    (prev : Bytes) (fuel : Nat) (hf : n ≤ fuel) :
    cbcDec key kl bl prev fuel (cbcEnc key kl bl prev fuel p) = p := by
  refine cbc_induction (fun prev fuel => by cases fuel <;> simp [cbcDec, cbcEnc])
    (fun prev fuel b rest hb ih => ?_) hp prev hf
  rw [cbcEnc_block key kl hbl prev fuel rest hb, cbcDec_block key kl hbl prev fuel _ (by simp [hb]), ih, blkD_blkE,
    xorB_xorB]

theorem cbcEnc_cbcDec {bl n : Nat} {c : Bytes} (hbl : 0 < bl) (hc : c.length = n * bl) (key : Bytes) (kl : Nat)
    (prev : Bytes) (fuel : Nat) (hf : n ≤ fuel) :
    cbcEnc key kl bl prev fuel (cbcDec key kl bl prev fuel c) = c := by
  refine cbc_induction (fun prev fuel => by cases fuel <;> simp [cbcDec, cbcEnc])
    (fun prev fuel b rest hb ih => ?_) hc prev hf
  rw [cbcDec_block key kl hbl prev fuel rest hb, cbcEnc_block key kl hbl prev fuel _ (by simp [hb]), xorB_xorB,
    blkE_blkD, ih]

/-- `decrypt` with the block and key lengths as parameters -/
def decryptG (bl kl : Nat) (key iv ct : Bytes) : Bytes × Bool :=
  let nblk := ct.length / bl
  let release := if ct.length % bl = 0 then nblk - 1 else nblk
  let all := cbcDec (key.take kl) kl bl (iv.take bl) (nblk + 1) (ct.take (nblk * bl))
  let head := all.take (release * bl)
  if ct.length = 0 ∨ ct.length % bl ≠ 0 then (head, false) else
  let last := (all.drop (release * bl)).take bl
  let pad := (last.getD (bl - 1) 0).toNat
  if pad < 1 ∨ pad > bl then (head, false) else
  if (last.drop (bl - pad)).all (fun x => x.toNat = pad) then (head ++ last.take (bl - pad), true)
  else (head, false)

theorem decrypt_eq (c : Nat) (key iv ct : Bytes) :
    decrypt c key iv ct = decryptG (blk c).toNat (klen c).toNat key iv ct := rfl

/-- `encrypt` with the block and key lengths as parameters -/
def encryptG (bl kl : Nat) (key iv pt : Bytes) : Bytes :=
  let pad := bl - pt.length % bl
  let p := pt ++ List.replicate pad (UInt8.ofNat pad)
  cbcEnc (key.take kl) kl bl (iv.take bl) (p.length / bl + 1) p

theorem encrypt_eq (c : Nat) (key iv pt : Bytes) :
    encrypt c key iv pt = encryptG (blk c).toNat (klen c).toNat key iv pt := rfl

theorem pred_mul_add (bl : Nat) {n : Nat} (hn : 1 ≤ n) : (n - 1) * bl + bl = n * bl := by
  rw [← Nat.succ_mul]; congr 1; omega

theorem decryptG_whole (bl kl : Nat) (key iv ct : Bytes) (n : Nat) (hbl0 : 0 < bl) (hn : 1 ≤ n)
    (hct : ct.length = n * bl) :
    decryptG bl kl key iv ct =
      (let all := cbcDec (key.take kl) kl bl (iv.take bl) (n + 1) ct
       let head := all.take ((n - 1) * bl)
       let last := all.drop ((n - 1) * bl)
       let pad := (last.getD (bl - 1) 0).toNat
       if pad < 1 ∨ pad > bl then (head, false) else
       if (last.drop (bl - pad)).all (fun x => x.toNat = pad) then (head ++ last.take (bl - pad), true)
       else (head, false)) := by
  have hdiv : ct.length / bl = n := by rw [hct]; exact Nat.mul_div_cancel _ hbl0
  have hmod : ct.length % bl = 0 := by rw [hct]; exact Nat.mul_mod_left _ _
  have hnb := pred_mul_add bl hn
  have hal := cbcDec_length hbl0 hct (key.take kl) kl (iv.take bl) (n + 1) (by omega)
  unfold decryptG
  simp only [hdiv, hmod, if_true, ne_eq, not_true_eq_false, or_false, if_neg (show ¬ ct.length = 0 by omega)]
  rw [List.take_of_length_le (l := ct) (i := n * bl) (by omega),
    List.take_of_length_le (i := bl) (by rw [List.length_drop]; omega)]

theorem decryptG_of_padded (bl kl : Nat) (key iv ct pt : Bytes) (pad n : Nat)
    (hbl0 : 0 < bl) (hbl : bl < 256) (hn : 1 ≤ n) (hpad : 1 ≤ pad ∧ pad ≤ bl) (hct : ct.length = n * bl)
    (hall : cbcDec (key.take kl) kl bl (iv.take bl) (n + 1) ct = pt ++ List.replicate pad (UInt8.ofNat pad)) :
    decryptG bl kl key iv ct = (pt, true) := by
  have hal := cbcDec_length hbl0 hct (key.take kl) kl (iv.take bl) (n + 1) (by omega)
  rw [hall, List.length_append, List.length_replicate, hct] at hal
  have hnb := pred_mul_add bl hn
  have hle : (n - 1) * bl ≤ pt.length := by omega
  rw [decryptG_whole bl kl key iv ct n hbl0 hn hct, hall]
  dsimp only
  rw [List.take_append_of_le_length hle, List.drop_append_of_le_length hle]
  -- `T`: the plaintext bytes of the last block
  generalize hT' : pt.drop ((n - 1) * bl) = T
  have hT : T.length = bl - pad := by rw [← hT', List.length_drop]; omega
  have e3 : (T ++ List.replicate pad (UInt8.ofNat pad)).getD (bl - 1) 0 = UInt8.ofNat pad := by
    rw [List.getD_eq_getElem?_getD, List.getElem?_append_right (by omega), List.getElem?_replicate,
      if_pos (by omega)]; rfl
  have e4 : (UInt8.ofNat pad).toNat = pad := by rw [UInt8.toNat_ofNat']; omega
  rw [e3, e4, if_neg (by omega), ← hT, List.drop_left, List.take_left, if_pos (by simp [e4]), ← hT',
    List.take_append_drop]

theorem decryptG_inv (bl kl : Nat) (key iv ct pt : Bytes) (hbl0 : 0 < bl)
    (h : decryptG bl kl key iv ct = (pt, true)) :
    ∃ n pad, 1 ≤ n ∧ ct.length = n * bl ∧ 1 ≤ pad ∧ pad ≤ bl ∧
      cbcDec (key.take kl) kl bl (iv.take bl) (n + 1) ct = pt ++ List.replicate pad (UInt8.ofNat pad) := by
  have hlen : ct.length ≠ 0 ∧ ct.length % bl = 0 := by
    unfold decryptG at h
    by_cases hc : ct.length = 0 ∨ ct.length % bl ≠ 0
    · rw [if_pos hc] at h; cases h
    · exact ⟨fun e => hc (.inl e), Decidable.not_not.mp fun e => hc (.inr e)⟩
  obtain ⟨n, hct⟩ : ∃ n, ct.length = n * bl := ⟨_, (Nat.div_mul_cancel (Nat.dvd_of_mod_eq_zero hlen.2)).symm⟩
  have hn1 : 1 ≤ n := Nat.pos_of_ne_zero fun e => hlen.1 (by rw [hct, e, Nat.zero_mul])
  have hnb := pred_mul_add bl hn1
  have hal := cbcDec_length hbl0 hct (key.take kl) kl (iv.take bl) (n + 1) (by omega)
  rw [decryptG_whole bl kl key iv ct n hbl0 hn1 hct] at h
  refine ⟨n, ?_⟩
  generalize cbcDec (key.take kl) kl bl (iv.take bl) (n + 1) ct = all at h hal ⊢
  dsimp only at h
  generalize hl : List.drop ((n - 1) * bl) all = last at h
  have hll : last.length = bl := by rw [← hl, List.length_drop]; omega
  generalize hp : (last.getD (bl - 1) 0).toNat = pad at h
  revert h
  refine ite_eq_elim (fun _ h => by cases h) fun hc2 => ?_
  refine ite_eq_elim (fun hc3 h => ?_) fun _ h => by cases h
  have hpt : List.take ((n - 1) * bl) all ++ List.take (bl - pad) last = pt := congrArg Prod.fst h
  refine ⟨pad, hn1, hct, by omega, by omega, ?_⟩
  have hrep : List.drop (bl - pad) last = List.replicate pad (UInt8.ofNat pad) := by
    rw [List.eq_replicate_iff]
    refine ⟨by rw [List.length_drop]; omega, fun b hb => ?_⟩
    have hb' : b.toNat = pad := by simpa using List.all_eq_true.mp hc3 b hb
    rw [← hb']; simp
  rw [← hpt, List.append_assoc, ← hrep, List.take_append_drop, ← hl, List.take_append_drop]

theorem decryptG_encryptG (bl kl : Nat) (key iv pt : Bytes) (hbl0 : 0 < bl) (hbl : bl < 256) :
    decryptG bl kl key iv (encryptG bl kl key iv pt) = (pt, true) := by
  have hm := Nat.mod_lt pt.length hbl0
  have hq : pt.length + (bl - pt.length % bl) = (pt.length / bl + 1) * bl := by
    have := Nat.div_add_mod pt.length bl
    rw [Nat.succ_mul, Nat.mul_comm _ bl]; omega
  unfold encryptG
  dsimp only
  generalize pt.length / bl = q at *
  generalize hpad : bl - pt.length % bl = pad at *
  generalize hp : pt ++ List.replicate pad (UInt8.ofNat pad) = p
  have hpl : p.length = (q + 1) * bl := by rw [← hp, List.length_append, List.length_replicate, hq]
  rw [hpl, Nat.mul_div_cancel _ hbl0]
  exact decryptG_of_padded bl kl key iv _ pt pad (q + 1) hbl0 hbl (by omega) (by omega)
    (by rw [cbcEnc_length hbl0 hpl _ _ _ _ (by omega), hpl])
    (by rw [cbcDec_cbcEnc hbl0 hpl _ _ _ _ (by omega), hp])

theorem decryptG_inj (bl kl : Nat) (key iv c1 c2 pt : Bytes) (hbl0 : 0 < bl)
    (h1 : decryptG bl kl key iv c1 = (pt, true)) (h2 : decryptG bl kl key iv c2 = (pt, true)) : c1 = c2 := by
  obtain ⟨n1, p1, hn1, hc1, hp1, hp1', ha1⟩ := decryptG_inv bl kl key iv c1 pt hbl0 h1
  obtain ⟨n2, p2, hn2, hc2, hp2, hp2', ha2⟩ := decryptG_inv bl kl key iv c2 pt hbl0 h2
  have l1 := cbcDec_length hbl0 hc1 (key.take kl) kl (iv.take bl) (n1 + 1) (by omega)
  have l2 := cbcDec_length hbl0 hc2 (key.take kl) kl (iv.take bl) (n2 + 1) (by omega)
  rw [ha1, hc1] at l1
  rw [ha2, hc2] at l2
  simp only [List.length_append, List.length_replicate] at l1 l2
  -- `pt.length + p = n * bl` with `1 ≤ p ≤ bl` fixes `n`
  have hn : n1 = n2 := Nat.le_antisymm
    (Nat.le_of_lt_succ (Nat.lt_of_mul_lt_mul_right (a := bl) (by rw [Nat.succ_mul]; omega)))
    (Nat.le_of_lt_succ (Nat.lt_of_mul_lt_mul_right (a := bl) (by rw [Nat.succ_mul]; omega)))
  subst hn
  have hp : p1 = p2 := by omega
  subst hp
  have e1 := cbcEnc_cbcDec hbl0 hc1 (key.take kl) kl (iv.take bl) (n1 + 1) (by omega)
  have e2 := cbcEnc_cbcDec hbl0 hc2 (key.take kl) kl (iv.take bl) (n1 + 1) (by omega)
  rw [← e1, ← e2, ha1, ha2]

theorem rle_even (fuel : Nat) (src : Bytes) : (rle fuel src).length % 2 = 0 := by
  fun_induction rle fuel src with
  | case1 | case2 => rfl
  | case3 fuel b rest run run' ih => rw [List.length_cons, List.length_cons]; omega

theorem take_of_le_takeWhile (b : UInt8) (l : Bytes) (k : Nat) (hk : k ≤ (l.takeWhile (· == b)).length) :
    l.take k = List.replicate k b ∧ k ≤ l.length := by
  have hall : ∀ x ∈ l.takeWhile (· == b), (x == b) = true := List.all_eq_true.mp List.all_takeWhile
  obtain ⟨r, hr⟩ := List.takeWhile_prefix (· == b) (l := l)
  generalize l.takeWhile (· == b) = tw at hk hr hall
  subst hr
  refine ⟨?_, by rw [List.length_append]; omega⟩
  rw [List.take_append_of_le_length hk, List.eq_replicate_iff]
  exact ⟨by rw [List.length_take]; omega, fun x hx => by simpa using hall x (List.mem_of_mem_take hx)⟩

theorem unrle_rle (f : Nat) (src : Bytes) (fuel cap acc : Nat) (h1 : src.length ≤ f)
    (h2 : (rle f src).length ≤ 2 * fuel) (h3 : acc + src.length ≤ cap) : unrle fuel (rle f src) cap acc = some src := by
  fun_induction rle f src generalizing fuel acc with
  | case1 src => rw [List.eq_nil_of_length_eq_zero (Nat.le_zero.mp h1)]; cases fuel <;> rfl
  | case2 f => cases fuel <;> rfl
  | case3 f b rest run0 run ih =>
    have hrun : run ≤ 254 ∧ run ≤ run0 := by
      show (if run0 > 254 then 254 else run0) ≤ 254 ∧ (if run0 > 254 then 254 else run0) ≤ run0
      split <;> omega
    obtain ⟨ht, hl⟩ := take_of_le_takeWhile b rest run hrun.2
    simp only [List.length_cons] at h1 h2 h3
    obtain ⟨fuel, rfl⟩ : ∃ k, fuel = k + 1 := ⟨fuel - 1, by omega⟩
    have hn : (UInt8.ofNat (run + 1)).toNat = run + 1 := by rw [UInt8.toNat_ofNat']; omega
    have hn0 : UInt8.ofNat (run + 1) ≠ 0 := fun h => by
      have := congrArg UInt8.toNat h; rw [hn] at this; simp at this
    rw [unrle, if_neg hn0, hn, if_neg (by omega), ih fuel (acc + (run + 1)) (by rw [List.length_drop]; omega)
      (by omega) (by rw [List.length_drop]; omega)]
    simp only [Option.map_some, List.replicate_succ, List.cons_append]
    rw [← ht, List.take_append_drop]

theorem tag_ne (z : Nat) : tag0 z + 1 ≠ tag0 z := by
  unfold tag0; split <;> decide

theorem inflate_deflate' (z : Nat) (x : Bytes) : inflate z (deflate z x) x.length = some x := by
  unfold deflate
  by_cases h : (rle x.length x).length < x.length
  · rw [if_pos h]
    simp only [inflate]
    rw [if_neg (tag_ne z), if_pos trivial, if_neg (by have := rle_even x.length x; omega)]
    exact unrle_rle x.length x _ _ 0 (Nat.le_refl _) (by omega) (by omega)
  · rw [if_neg h]
    simp only [inflate]
    rw [if_pos trivial, if_neg (by omega)]

theorem toy_laws : PrimLaws prims := by
  have cv (c : Nat) (h : prims.cipherValid c = true) : 0 < blk c ∧ blk c ≤ 16 ∧ 0 < klen c ∧ klen c ≤ 32 := by
    have h' : blk c > 0 := of_decide_eq_true h
    rcases blk_cases c with ⟨e, e'⟩ | ⟨e, e'⟩ | ⟨e, e'⟩ | ⟨e, e'⟩ <;> omega
  exact
    { mac_low := by decide
      cipher_low := by decide
      zip_low := by decide
      macLen_range := fun t h => by
        have h' : macLen t > 0 := of_decide_eq_true h
        show 16 ≤ macLen t ∧ macLen t ≤ 64
        rcases macLen_cases t with e | e | e | e | e <;> omega
      mac_length := fun t k x h => mac_length' t k x (of_decide_eq_true h)
      ivLen_range := fun c h => ⟨Int.le_of_lt (cv c h).1, (cv c h).2.1⟩
      keyLen_range := fun c h => (cv c h).2.2
      keyLen_none := by decide
      dec_enc := fun c k iv pt h => by
        have := cv c h
        show decrypt c k iv (encrypt c k iv pt) = (pt, true)
        rw [encrypt_eq, decrypt_eq]
        exact decryptG_encryptG _ _ k iv pt (by omega) (by omega)
      dec_inj := fun c k iv c1 c2 pt h =>
        decryptG_inj (blk c).toNat (klen c).toNat k iv c1 c2 pt (by have := cv c h; omega)
      inflate_deflate := fun z x _ _ => inflate_deflate' z x }

end Munge.ToyPrims
