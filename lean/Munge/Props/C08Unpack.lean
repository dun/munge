import Munge.Gen.Unpack
import Munge.Gen.Dec
import Munge.Lemmas.Kernel
/-!
# C08 / C14 (parsers): the credential parsers never read outside the buffer they are given

`Munge.Gen.Unpack.dec_unpack_outer` and `dec_unpack_inner` are regenerated from `src/munged/dec.c` on every run by
the K+cursor translator (tools/gen/kcursor.py): each byte the C reads through its cursor is an event `("rd", [off, n])`,
each copy an event `("cp:<destination>", [off, n])`.  The theorems quantify over every buffer content, every length
an `int` can hold and every answer of the primitive tables (`cipher_iv_size`, `mac_size`, … are arbitrary functions).
-/
namespace Munge.C08Unpack
open Munge.C Munge.Gen.Unpack
open scoped Munge.Kernel

/-- a predicate on (name, arguments) holds for every event of the list -/
def evAll (P : String → List Int → Prop) : List (String × List Int) → Prop
  | [] => True
  | (nm, args) :: t => P nm args ∧ evAll P t

/-- an `rd` event lies inside `[0, len]` -/
def RdWithin (len : Int) (nm : String) (args : List Int) : Prop :=
  nm = "rd" → match args with
              | [off, n] => 0 ≤ off ∧ 0 ≤ n ∧ off + n ≤ len
              | _ => False

/-- every `rd` event of the list lies inside `[0, len]` -/
def readsWithin (len : Int) (evs : List (String × List Int)) : Prop := evAll (RdWithin len) evs

/-- a copy (or fill) into the fixed-size destination `dst` moves at most `cap` bytes -/
def CpFits (dst : String) (cap : Int) (nm : String) (args : List Int) : Prop :=
  (nm = "cp:" ++ dst ∨ nm = "set:" ++ dst) → match args with
                                             | [_, n] => 0 ≤ n ∧ n ≤ cap
                                             | _ => False

/-- the heap block `realm_mem`: it is allocated (with a positive size) before it is used, the copy into it and the
    terminating store stay inside the allocated size.  `cap` = size of the allocation so far (0 = not allocated). -/
def heapOK : Int → List (String × List Int) → Prop
  | _, [] => True
  | cap, (nm, args) :: t =>
    if nm = "malloc" then 0 < args.getD 0 0 ∧ heapOK (args.getD 0 0) t
    else if nm = "cp:c.realm_mem" then (0 < cap ∧ 0 ≤ args.getD 1 (-1) ∧ args.getD 1 (-1) ≤ cap) ∧ heapOK cap t
    else if nm = "st:c.realm_mem" then (0 ≤ args.getD 0 (-1) ∧ args.getD 0 (-1) < cap) ∧ heapOK cap t
    else heapOK cap t

/-- what a successful `dec_unpack_outer` leaves in the credential: outer layer, MAC and inner layer tile the buffer -/
def OuterTiles (len : Int) (o : KOut) : Prop :=
  o.ret = 0 →
    5 ≤ o.get "c.outer_len" (-1) ∧ 0 < o.get "c.mac_len" (-1) ∧
    o.get "c.inner.off" (-1) = o.get "c.outer_len" (-1) + o.get "c.mac_len" (-1) ∧
    0 ≤ o.get "c.inner_len" (-1) ∧ o.get "c.inner.off" (-1) + o.get "c.inner_len" (-1) = len

/-- what a successful `dec_unpack_inner` leaves in the message: the payload pointer and length stay inside the layer -/
def InnerPayloadInside (len : Int) (o : KOut) : Prop :=
  o.ret = 0 →
    (o.get "c.msg.data" (-1) = 0 ∧ o.get "c.msg.data_len" (-1) = 0) ∨
    (o.get "c.msg.data" (-1) = 1 ∧ 0 < o.get "c.msg.data_len" (-1) ∧ 37 ≤ o.get "c.msg.data.off" (-1) ∧
      o.get "c.msg.data.off" (-1) + o.get "c.msg.data_len" (-1) ≤ len)

theorem ite_intro {c : Prop} [Decidable c] {P Q : Prop} (hp : c → P) (hq : ¬c → Q) : if c then P else Q := by
  split <;> simp_all

/-! ## `dec_unpack_outer` -/

/-- **Every byte `dec_unpack_outer` reads lies inside the unarmored credential**: for every buffer content, every
    length `0 ≤ outer_len ≤ INT_MAX` and every answer of the cipher / MAC tables, each read through the cursor
    (`*p`, `memcpy (…, p, n)`) has `0 ≤ off`, `0 ≤ n` and `off + n ≤ outer_len`.  (F1 - the MAC copied without a
    remaining-length test - makes this statement false.) -/
theorem outer_reads_in_bounds (outer_len malloc_ret : Int) (outer cme civ mme ms cks zv : Int → Int)
    (h : -2147483648 ≤ outer_len ∧ outer_len ≤ 2147483647) :
    readsWithin outer_len (dec_unpack_outer outer_len malloc_ret outer cme civ mme ms cks zv).events := by
  have r4 := rdU8_range outer 4
  kcases dec_unpack_outer consuming h <;> (try simp only [wrapU64] at *) <;> simp [readsWithin, evAll, RdWithin] <;> omega

/-- **The copies into the fixed-size members `c->iv` and `c->mac` fit**, provided the tables never report an IV longer
    than `sizeof (c->iv)` or a digest longer than `sizeof (c->mac)` (proved for the probed tables below). -/
theorem outer_copies_fit (outer_len malloc_ret : Int) (outer cme civ mme ms cks zv : Int → Int)
    (hiv : ∀ x, civ x ≤ SZ_iv) (hmac : ∀ x, ms x ≤ SZ_mac) :
    evAll (fun nm a => CpFits "c.iv" SZ_iv nm a ∧ CpFits "c.mac" SZ_mac nm a)
      (dec_unpack_outer outer_len malloc_ret outer cme civ mme ms cks zv).events := by
  have r1 := hiv (rdU8 outer 1)
  have r2 := hmac (rdU8 outer 2)
  kcases dec_unpack_outer <;> simp [evAll, CpFits, SZ_iv, SZ_mac, wrapS32, wrapU64] at * <;> omega

/-- **The realm string's heap block is used inside its allocation**: it is allocated with `realm_len + 1 > 0` bytes
    before any use, `realm_len` bytes are copied into it and the terminator is stored at index `realm_len`. -/
theorem outer_heap_ok (outer_len malloc_ret : Int) (outer cme civ mme ms cks zv : Int → Int) :
    heapOK 0 (dec_unpack_outer outer_len malloc_ret outer cme civ mme ms cks zv).events := by
  kcases dec_unpack_outer <;> simp [heapOK, wrapS32] at * <;> omega

/-- **What `dec_unpack_outer` hands to the later stages is inside the buffer**: on success the outer layer, the MAC
    and the inner layer tile the buffer - `5 ≤ c->outer_len`, `c->inner = outer + c->outer_len + c->mac_len` with
    `c->mac_len > 0`, `0 ≤ c->inner_len` and `inner offset + c->inner_len = outer_len`; so the MAC that is verified
    and the inner layer that is decrypted are exactly the bytes after the outer layer, and none lie outside. -/
theorem outer_result_tiles (outer_len malloc_ret : Int) (outer cme civ mme ms cks zv : Int → Int)
    (h : -2147483648 ≤ outer_len ∧ outer_len ≤ 2147483647) (hiv : ∀ x, civ x ≤ SZ_iv) (hmac : ∀ x, ms x ≤ SZ_mac) :
    OuterTiles outer_len (dec_unpack_outer outer_len malloc_ret outer cme civ mme ms cks zv) := by
  have r1 := hiv (rdU8 outer 1)
  have r2 := hmac (rdU8 outer 2)
  kcases dec_unpack_outer consuming h <;> simp [OuterTiles, SZ_iv, SZ_mac, wrapS32] at * <;> omega

/-! ## `dec_unpack_inner` -/

/-- **Every byte `dec_unpack_inner` reads lies inside the (decrypted, decompressed) inner layer**, for every content,
    every length an `int` can hold and either cipher setting. -/
theorem inner_reads_in_bounds (inner_len cipher : Int) (inner : Int → Int)
    (h : -2147483648 ≤ inner_len ∧ inner_len ≤ 2147483647) :
    readsWithin inner_len (dec_unpack_inner inner_len cipher inner).events := by
  have r8 := rdU8_range inner 8
  kcases dec_unpack_inner consuming h <;> (try simp only [wrapU32] at *) <;> simp [readsWithin, evAll, RdWithin] <;> omega

/-- **The salt and the origin address fit their members**: at most `sizeof (c->salt)` bytes go to the salt and at most
    `sizeof (m->addr)` bytes are copied to (or cleared in) the address. -/
theorem inner_copies_fit (inner_len cipher : Int) (inner : Int → Int) :
    evAll (fun nm a => CpFits "c.salt" SZ_salt nm a ∧ CpFits "c.msg.addr" SZ_addr nm a)
      (dec_unpack_inner inner_len cipher inner).events := by
  kcases dec_unpack_inner <;> simp [evAll, CpFits, SZ_salt, SZ_addr, wrapS32, wrapU32] at * <;> omega

/-- **The payload handed to the client lies inside the inner layer**: on success either `data = NULL` and
    `data_len = 0`, or `data` points at least 37 bytes into the layer and `data + data_len` does not pass its end -
    a reply can never disclose bytes beyond the authenticated inner layer (C08-m1 breaks this). -/
theorem inner_payload_inside (inner_len cipher : Int) (inner : Int → Int)
    (h : -2147483648 ≤ inner_len ∧ inner_len ≤ 2147483647) :
    InnerPayloadInside inner_len (dec_unpack_inner inner_len cipher inner) := by
  have r8 := rdU8_range inner 8
  have rb := rdBE32_range inner (9 + rdU8 inner 8 + 4 + 4 + 4 + 4 + 4 + 4)
  kcases dec_unpack_inner consuming h <;> simp [InnerPayloadInside, wrapU32] at * <;> omega

/-! ## `zip_decompress_length` (zip.c): the 8-byte header of a compressed inner layer -/

/-- **The compression header is read only when it is there**: for every non-negative length (what `dec_unpack_outer` hands on,
    see `outer_result_tiles`) the two 4-byte reads of `zip_decompress_length` lie inside the block. -/
theorem zip_header_reads_in_bounds (type len : Int) (src : Int → Int) (h : 0 ≤ len ∧ len ≤ 2147483647) :
    readsWithin len (zip_decompress_length type len src).events := by
  kcases zip_decompress_length <;> simp [readsWithin, evAll, RdWithin, wrapU64] at * <;> omega

/-- **What it answers**: -1 for a block shorter than the header or without the magic number, otherwise the stored original
    length read big-endian at offset 4 and converted to `int` (so a stored length ≥ 2^31 comes out negative and is refused by
    `C02Stages.decompress_bad_length_refused`). -/
theorem zip_length_spec (type len : Int) (src : Int → Int) (h : 0 ≤ len ∧ len ≤ 2147483647) :
    (zip_decompress_length type len src).ret =
      (if len < 8 ∨ rdBE32 src 0 ≠ ZIP_MAGIC then -1 else wrapS32 (rdBE32 src 4)) := by
  unfold ZIP_MAGIC
  kcases zip_decompress_length <;> simp [wrapU64] at * <;> omega

/-- (why the non-negativity matters: `len < sizeof (zip_meta_t)` is an unsigned comparison in C - a negative `int` would pass it) -/
example : (zip_decompress_length 0 (-1) (fun _ => 0)).events = [("rd", [0, 4])] := by decide

/-! ## the probed tables of the real primitives satisfy the size hypotheses -/

theorem getD_le_of_all {l : List Int} {b d : Int} (hl : ∀ v ∈ l, v ≤ b) (hd : d ≤ b) (n : Nat) : l.getD n d ≤ b := by
  rw [List.getD_eq_getElem?_getD]
  cases hn : l[n]? with
  | none => simpa using hd
  | some v => simpa using hl v (List.mem_of_getElem? hn)

/-- **No cipher of this build reports an IV longer than `sizeof (c->iv)`** (table probed from cipher.c / OpenSSL) -/
theorem real_iv_size_fits (x : Int) : Munge.Gen.Dec.cipher_iv_size_real x ≤ SZ_iv := by
  unfold Munge.Gen.Dec.cipher_iv_size_real
  exact getD_le_of_all (by decide +kernel) (by decide) _

/-- **No MAC of this build reports a digest longer than `sizeof (c->mac)`** (table probed from mac.c / OpenSSL) -/
theorem real_mac_size_fits (x : Int) : Munge.Gen.Dec.mac_size_real x ≤ SZ_mac := by
  unfold Munge.Gen.Dec.mac_size_real
  exact getD_le_of_all (by decide +kernel) (by decide) _

/-! ## non-vacuity: concrete buffers on which the kernels succeed, with the reads the theorems speak about -/

/-- version 3, cipher 0 (none), MAC 5, zip 0, realm "ab", then 32 MAC bytes and 3 inner bytes -/
def sampleOuter : Int → Int := bufOf ([3, 0, 5, 0, 2, 97, 98] ++ List.replicate 32 7 ++ [1, 2, 3])

example : (dec_unpack_outer 42 1 sampleOuter (fun _ => 0) (fun _ => 0) (fun _ => 0) (fun _ => 32) (fun _ => 0) (fun _ => 1)).ret = 0 := by
  decide +kernel
example : (dec_unpack_outer 42 1 sampleOuter (fun _ => 0) (fun _ => 0) (fun _ => 0) (fun _ => 32) (fun _ => 0) (fun _ => 1)).events
    = [("rd", [0, 1]), ("rd", [1, 1]), ("rd", [2, 1]), ("rd", [3, 1]), ("rd", [4, 1]), ("malloc", [3]), ("rd", [5, 2]),
       ("cp:c.realm_mem", [5, 2]), ("st:c.realm_mem", [2, 0]), ("rd", [7, 32]), ("cp:c.mac", [7, 32])] := by
  decide +kernel
/-- the MAC check that F1 lacked: one byte short of the MAC is refused (`"Truncated MAC"`), nothing past the end is read -/
example : (dec_unpack_outer 38 1 sampleOuter (fun _ => 0) (fun _ => 0) (fun _ => 0) (fun _ => 32) (fun _ => 0) (fun _ => 1)).events.getLast?
    = some ("m_msg_set_err", [8, 15]) := by
  decide +kernel
example : dec_unpack_outer_errStrings.getD 15 "" = "Truncated MAC" := by decide

/-- 8 salt bytes, address length 4, address, seven big-endian words (the last = payload length 2), payload "hi" -/
def sampleInner : Int → Int :=
  bufOf (List.replicate 8 9 ++ [4, 127, 0, 0, 1] ++ [0, 0, 0, 100, 0, 0, 1, 44, 0, 0, 3, 232, 0, 0, 3, 233,
    255, 255, 255, 255, 255, 255, 255, 255, 0, 0, 0, 2] ++ [104, 105])

example : (dec_unpack_inner 43 4 sampleInner).ret = 0 ∧
    (dec_unpack_inner 43 4 sampleInner).get "c.msg.data.off" (-1) = 41 ∧
    (dec_unpack_inner 43 4 sampleInner).get "c.msg.data_len" (-1) = 2 ∧
    (dec_unpack_inner 43 4 sampleInner).get "c.msg.cred_uid" (-1) = 1000 ∧
    (dec_unpack_inner 43 4 sampleInner).get "c.msg.auth_uid" (-1) = 4294967295 := by
  decide +kernel

end Munge.C08Unpack
