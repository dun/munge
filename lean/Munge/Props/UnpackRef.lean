import Munge.Lemmas.Unpack
import Munge.Props.C08Unpack
import Munge.Model.ToyPrims
/-!
# The hand-written credential parsers ARE the code (C02, C08, C10: the tie of `Cred.unpackOuter` / `unpackInner`)

`Munge.Cred.unpackOuter` and `Munge.Cred.unpackInner` are the hand-written parsers on which the credential theorems
(C01, C02, C08, C09, C10) are stated.  `Munge.Gen.Unpack.dec_unpack_outer` / `dec_unpack_inner` are regenerated from
`src/munged/dec.c` on every run by the K+cursor translator.  The theorems below show, for **every** byte string (up to
INT_MAX bytes), every message and every primitive table, that the model's result is the translated kernel's result:
the same success / failure, the same error code, the same header fields, and the model's slices (outer layer, IV, MAC,
inner layer, payload, origin address, realm) are exactly the byte ranges the kernel's offsets describe.  A semantic
edit of either parser in dec.c changes the generated kernel and breaks these proofs even when no correspondence stream
happens to contain the distinguishing input.

The relation itself (`OuterRef`, `InnerRef`) is defined in `Lemmas/Unpack.lean`; it is restated in the docstrings.
-/
namespace Munge.UnpackRef
open Munge.C Munge.Cred Munge.Unpack Munge.Gen.Unpack

/-- **`Cred.unpackOuter` refines the translated `dec_unpack_outer`.**  With the kernel run on the same bytes
    (`kOuter`: length `buf.length`, buffer `bufOf buf`, table answers of `P`, allocation succeeding):
    * the model never answers `oob`;
    * the model fails with code `e` ⇔ the kernel returns -1 and its first `m_msg_set_err` carries `e`;
    * the model succeeds with `(m', s)` ⇔ the kernel returns 0, and then `m'.cipher / mac / zip / realmLen` are the
      values the kernel writes to `m->cipher / mac / zip / realm_len`, `s.macLen = c->mac_len`, `|s.iv| = c->iv_len`,
      `s.outer = buf[0 .. c->outer_len)`, `s.iv` = the last `iv_len` bytes of that, `s.mac = buf[c->outer_len ..
      +mac_len)`, `s.inner = buf[c->inner ..]`, and the realm is `buf[5 .. 5+realm_len) ‖ NUL` when present. -/
theorem unpackOuter_is_the_code (P : Prims) (m : Msg) (buf : Bytes) (hlen : buf.length ≤ 2147483647) :
    OuterRef m buf (kOuter P buf) (unpackOuter P m buf) :=
  unpackOuter_refines P m buf hlen

/-- **`Cred.unpackInner` refines the translated `dec_unpack_inner`**: same outcome and error code; on success
    `addrLen, time0, ttl, credUid, credGid, authUid, authGid, dataLen` are the values the kernel stores (big-endian
    reads at the kernel's offsets), the address is `buf[9 .. 13)` or zero, and the payload is `buf[m->data ..
    +data_len)` (NULL / empty when `data_len = 0`). -/
theorem unpackInner_is_the_code (m : Msg) (cipher : Nat) (buf : Bytes) (hlen : buf.length ≤ 2147483647) :
    InnerRef buf (kInner cipher buf) (unpackInner m buf) :=
  unpackInner_refines m cipher buf hlen

/-- Corollary (outer): the model accepts exactly when the code accepts. -/
theorem outer_accepts_iff (P : Prims) (m : Msg) (buf : Bytes) (hlen : buf.length ≤ 2147483647) :
    (∃ r, unpackOuter P m buf = .ok r) ↔ (kOuter P buf).ret = 0 :=
  ref_accepts (fun h => h) (fun _ h => h.1) (fun _ h => h.1) (unpackOuter_refines P m buf hlen)

/-- Corollary (inner): the model accepts exactly when the code accepts. -/
theorem inner_accepts_iff (m : Msg) (cipher : Nat) (buf : Bytes) (hlen : buf.length ≤ 2147483647) :
    (∃ r, unpackInner m buf = .ok r) ↔ (kInner cipher buf).ret = 0 :=
  ref_accepts (fun h => h) (fun _ h => h.1) (fun _ h => h.1) (unpackInner_refines m cipher buf hlen)

/-- Corollary: what the model hands to MAC verification is what the code hands to it - the MAC the model compares is
    `mac_len` bytes starting at `c->outer_len`, and with `C08Unpack.outer_result_tiles` those bytes and the inner layer
    lie inside the credential. -/
theorem outer_mac_region (P : Prims) (m : Msg) (buf : Bytes) (hlen : buf.length ≤ 2147483647) (m' : Msg) (s : Scratch)
    (h : unpackOuter P m buf = .ok (m', s)) :
    s.mac = (buf.drop ((kOuter P buf).get "c.outer_len" (-1)).toNat).take s.macLen ∧
    s.outer = buf.take ((kOuter P buf).get "c.outer_len" (-1)).toNat ∧
    s.inner = buf.drop ((kOuter P buf).get "c.inner.off" (-1)).toNat := by
  have hh := unpackOuter_refines P m buf hlen
  rw [h] at hh
  obtain ⟨-, -, -, -, -, -, -, -, houter, -, hmac, hinner, -⟩ := hh
  exact ⟨hmac, houter, hinner⟩

/-- **`Cred.zipLength` (the model's reading of the compression header) is the translated `zip_decompress_length`** on the same
    bytes, for every byte string. -/
theorem zipLength_is_the_code (src : Bytes) (hlen : src.length ≤ 2147483647) :
    zipLength src = (zip_decompress_length 0 src.length (bufOf src)).ret := by
  rw [Munge.C08Unpack.zip_length_spec 0 src.length (bufOf src) ⟨by omega, by omega⟩]
  unfold zipLength
  by_cases h8 : src.length < 8
  · rw [if_pos h8, if_pos (Or.inl (by omega))]
  · have e0 : rdBE32 (bufOf src) 0 = rd32 (src.take 4) := rd32_bufOf (k := 0) rfl (by omega)
    have e4 : rdBE32 (bufOf src) 4 = _ := rd32_bufOf (k := 4) rfl (by omega)
    rw [if_neg h8, e0, e4]
    refine ite_congr ?_ (fun _ => rfl) (fun _ => rfl)
    show (¬ _ = (3402287818 : Int).toNat) = (_ ∨ ¬ _ = (3402287818 : Int))
    rw [show (3402287818 : Int).toNat = 3402287818 from rfl]
    apply propext; omega

/-- non-vacuity: a 42-byte credential body on which both sides succeed -/
example : ∃ r, unpackOuter Munge.ToyPrims.prims {} ([3, 0, 5, 0, 2, 97, 98] ++ List.replicate 32 7 ++ [1, 2, 3]) = .ok r :=
  (outer_accepts_iff _ _ _ (by decide)).mpr (by decide +kernel)

end Munge.UnpackRef
