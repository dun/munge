import Munge.Model.Cred
import Munge.Lemmas.CredDec
import Munge.Lemmas.CredEnc
/-
C09 — failure replies carry no credential data; padding and MAC failures look alike.
Theorems about the credential model (`Munge/Model/Cred.lean`), whose decision kernels, constants and
error texts are regenerated from the C source each run and whose parsers are tied byte-for-byte to the
real dec.c/enc.c by the correspondence harness.  (That `dec_process_msg` resets before the single send
for every hard error is also proved on the translated orchestration itself: C06.soft_errors_keep_payload,
C04.unauthorized_reply_is_reset.)
-/
namespace Munge.C09
open Munge.Cred Munge.Gen.Dec

/-- every field of a reply that could carry credential data is at its "nothing" value -/
def Sanitized (m : Msg) : Prop :=
  m.cipher = 0 ∧ m.mac = 0 ∧ m.zip = 0 ∧ m.realmLen = 0 ∧ m.realm = [] ∧ m.ttl = 0 ∧ m.addrLen = 0 ∧
  m.time0 = 0 ∧ m.time1 = 0 ∧ m.credUid = UID_ANY ∧ m.credGid = GID_ANY ∧ m.authUid = UID_ANY ∧
  m.authGid = GID_ANY ∧ m.dataLen = 0 ∧ m.data = []

/-- the DEC_RSP that carries an error code and message and nothing else: a function of
    (retry, code, text) alone -/
def errorOnlyRsp (retry code : Nat) (text : String) : Bytes :=
  decRsp { (reset {}) with retry := retry, errorNum := code, errorStr := text }

def soft (e : Nat) : Prop := e = 0 ∨ (e : Int) = EMUNGE_CRED_EXPIRED ∨ (e : Int) = EMUNGE_CRED_REWOUND ∨ (e : Int) = EMUNGE_CRED_REPLAYED

/-- a failed decode always carries an error code -/
theorem failure_has_error (P : Prims) (cf : Conf) (env : Env) (rs : ReplaySet) (m : Msg) (hm : m.errorNum = 0) :
    let o := decProcess P cf env rs m
    o.rc ≠ 0 → o.msg.errorNum ≠ 0 := by
  intro o h
  have _ := hm   -- not needed: a pre-set error only makes the failure exits more likely
  exact ((decProcess_any P cf env rs m).failed h).1

/-- For EVERY decode request, environment, cache state and primitive table: if the decode fails for any
    reason other than expired / rewound / replayed, the message that is sent is sanitised … -/
theorem hard_error_sanitized (P : Prims) (cf : Conf) (env : Env) (rs : ReplaySet) (m : Msg) :
    let o := decProcess P cf env rs m
    ¬ soft o.msg.errorNum → Sanitized o.msg ∧ o.msg.retry = m.retry := by
  intro o hs
  rcases decProcess_exit P cf env rs m with ⟨m', ho, hr, _⟩ | h
  · rw [show o = decFail rs m' from ho]
    exact ⟨reset_blank m', hr⟩
  · exact absurd h.code hs

/-- … hence the reply bytes are exactly `errorOnlyRsp retry code text`: payload length 0, UID/GID and the
    restrictions at the ANY sentinel, cipher/MAC/zip/TTL/times/address zero, no realm/address/payload
    bytes — nothing derived from the credential. -/
theorem hard_error_reply (P : Prims) (cf : Conf) (env : Env) (rs : ReplaySet) (m : Msg) :
    let o := decProcess P cf env rs m
    ¬ soft o.msg.errorNum → decRsp o.msg = errorOnlyRsp m.retry o.msg.errorNum o.msg.errorStr := by
  intro o hs
  have h := hard_error_sanitized P cf env rs m hs
  rw [← h.2]
  exact decRsp_of_blank _ h.1

/-- the same for encode: a failed encode returns an ENC_RSP with the error and an empty payload -/
theorem enc_error_sanitized (P : Prims) (cf : Conf) (env : Env) (m : Msg) :
    let r := encProcess P cf env m
    r.2 ≠ 0 → Sanitized r.1 ∧ r.1.errorNum ≠ 0 := by
  intro r h
  rcases encProcess_spec P cf env m with ⟨m', he, hn⟩ | ⟨_, _, _, _, _, he⟩
  · rw [show r = _ from he]
    exact ⟨reset_blank m', hn⟩
  · exact absurd (show r.2 = 0 by rw [show r = _ from he]) h

/-- Padding failure ≡ MAC failure.  For a credential that parses up to the outer layer and is
    encrypted: whether the final cipher block fails padding removal, or decryption succeeds but the
    recomputed MAC differs, the reply is THE SAME byte string — code EMUNGE_CRED_INVALID with the default
    message — so the two cannot be told apart by content. -/
theorem padding_eq_mac (P : Prims) (cf : Conf) (env : Env) (rs : ReplaySet) (m m1 : Msg) (s : Scratch)
    (hfront : decFront P env rs m = .inr (m1, s)) (hc : m1.cipher ≠ 0) (he : m.errorNum = 0)
    (hbad : (P.decrypt m1.cipher (P.mac m1.mac cf.dekKey s.mac) s.iv s.inner).2 = false ∨
            P.mac m1.mac cf.macKey (s.outer ++ (P.decrypt m1.cipher (P.mac m1.mac cf.dekKey s.mac) s.iv s.inner).1) ≠ s.mac) :
    decRsp (decProcess P cf env rs m).msg = errorOnlyRsp m.retry EMUNGE_CRED_INVALID.toNat "Invalid credential" := by
  have hna : ¬ Authentic P cf m1 s := by
    intro ha
    rw [Authentic, decDecrypt_inner, if_neg hc] at ha
    rcases hbad with h | h
    · rw [ha.2 hc] at h; cases h
    · exact h ha.1
  obtain ⟨m', ho, hr, hn, hs⟩ := decProcess_of_not_authentic P cf env rs m m1 s he hfront hna
  rw [ho, ← hr, ← hs, show EMUNGE_CRED_INVALID.toNat = 14 from rfl, ← hn]
  exact decRsp_of_blank _ (reset_blank m')

/-- and on the padding-failure path the MAC is still computed (the error is deferred to
    `dec_validate_mac`), which is what makes the two paths take the same steps -/
theorem padding_failure_still_macs (P : Prims) (cf : Conf) (m : Msg) (s : Scratch) (hc : m.cipher ≠ 0)
    (hpad : (P.decrypt m.cipher (P.mac m.mac cf.dekKey s.mac) s.iv s.inner).2 = false) (he : m.errorNum = 0) :
    (decDecrypt P cf m s).1.errorNum = EMUNGE_CRED_INVALID.toNat ∧
    (decDecrypt P cf m s).1.errorStr = "Invalid credential" ∧
    ∃ m', decValidateMac P cf (decDecrypt P cf m s).1 (decDecrypt P cf m s).2 = .error m' ∧
          m'.errorNum = EMUNGE_CRED_INVALID.toNat ∧ m'.errorStr = "Invalid credential" := by
  have hp : ¬ PadOk P cf m s := fun h => by rw [h hc] at hpad; cases hpad
  have hi := setErr_invalid m he
  rw [decValidateMac_decrypt, if_neg fun hg => hp hg.1.2, decDecrypt_eq, if_neg hp]
  exact ⟨hi.1, hi.2, _, rfl, hi.1, hi.2⟩

end Munge.C09
