import Munge.Gen.Key
import Munge.Lemmas.Kernel
/-
C20 (key creation): a key is written only after every step of the derivation succeeded

`Munge.Gen.Key.create_key_secret` is `_create_key_secret` of `src/mungekey/key.c`, re-translated on every run (C integer
semantics explicit: `int` results compared with `size_t` constants go through the usual conversions).  The results of the
entropy source, of the distinguisher formatting and of the HKDF context calls are inputs; each call is an event.
`create_key` treats a return value of -1 as fatal before anything is written to the key file.
-/
namespace Munge.C20Key
open Munge.C Munge.Gen.Key
open scoped Munge.Kernel

/-- the calls of a successful derivation, in order -/
def allSteps : List (String × List Int) :=
  [("entropy_read", []), ("entropy_read_uint", []), ("munge_enum_int_to_str", []), ("snprintf", []), ("hkdf_ctx_create", []),
   ("hkdf_ctx_set_md", []), ("hkdf_ctx_set_key", []), ("hkdf_ctx_set_salt", []), ("hkdf_ctx_set_info", []), ("hkdf", []),
   ("hkdf_ctx_destroy", [])]

/-- **No entropy, no key.**  If the kernel entropy read (`entropy_read`, 256 bytes of input keying material) or the salt
    read (`entropy_read_uint`) reports failure, `_create_key_secret` returns -1 (which `create_key` treats as fatal) and
    HKDF is never run on whatever the key buffer happens to contain. -/
theorem no_entropy_no_key (buflen re ru rs r1 r2 r3 r4 rh md hp : Int) (h : re = -1 ∨ ru = -1) :
    let o := create_key_secret buflen re ru rs r1 r2 r3 r4 rh md hp
    o.ret = -1 ∧ o.count "hkdf" = 0 ∧ o.count "hkdf_ctx_set_key" = 0 := by
  rcases h with rfl | rfl <;> kcases create_key_secret <;> simp [*]

/-- **A key comes out only of the complete derivation**: a return value of 0 means every step ran exactly once, in the order
    entropy, salt, distinguisher, HKDF context (digest, key, salt, info), HKDF, clean-up - and every one of them succeeded. -/
theorem success_means_every_step (buflen re ru rs r1 r2 r3 r4 rh md hp : Int) (hrs : -2147483648 ≤ rs ∧ rs ≤ 2147483647)
    (h : (create_key_secret buflen re ru rs r1 r2 r3 r4 rh md hp).ret = 0) :
    (create_key_secret buflen re ru rs r1 r2 r3 r4 rh md hp).events = allSteps ∧
    re ≠ -1 ∧ ru ≠ -1 ∧ md ≠ 0 ∧ 0 ≤ rs ∧ rs < 1024 ∧ hp ≠ 0 ∧ r1 ≠ -1 ∧ r2 ≠ -1 ∧ r3 ≠ -1 ∧ r4 ≠ -1 ∧ rh = 0 := by
  kcases create_key_secret <;> simp_all [allSteps, wrapU64] <;> omega

/-- **Any failing step means no key** (each step returns -1 on failure, a NULL pointer for the two look-ups): the function
    returns -1. -/
theorem failing_step_no_key (buflen re ru rs r1 r2 r3 r4 rh md hp : Int)
    (h : re = -1 ∨ ru = -1 ∨ md = 0 ∨ rs < 0 ∨ 1024 ≤ rs ∧ rs < 2147483648 ∨ hp = 0 ∨ r1 = -1 ∨ r2 = -1 ∨ r3 = -1 ∨ r4 = -1 ∨ rh = -1) :
    (create_key_secret buflen re ru rs r1 r2 r3 r4 rh md hp).ret = -1 := by
  kcases create_key_secret <;> simp_all [wrapU64]
  -- only the success path is left, with the test of `snprintf`'s result among its hypotheses
  rcases h with h | h <;> omega

/-- **The HKDF context (which holds the input keying material) is destroyed on every path**, exactly once. -/
theorem context_destroyed_once (buflen re ru rs r1 r2 r3 r4 rh md hp : Int) :
    (create_key_secret buflen re ru rs r1 r2 r3 r4 rh md hp).count "hkdf_ctx_destroy" = 1 := by
  kcases create_key_secret <;> simp

/-- non-vacuity: the successful run, and the run on a machine without an entropy source -/
example : (create_key_secret 128 256 0 21 0 0 0 0 0 1 1).ret = 0 ∧ (create_key_secret 128 256 0 21 0 0 0 0 0 1 1).events = allSteps := by decide
example : (create_key_secret 128 (-1) 0 21 0 0 0 0 0 1 1).events = [("entropy_read", []), ("hkdf_ctx_destroy", [])] := by decide

end Munge.C20Key
