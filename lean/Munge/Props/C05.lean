import Munge.Lemmas.Replay
/-
C05 — on one daemon a credential decodes successfully at most once.

Regenerated from the sources on every run (`Munge.Gen.Hash`): the tests of the chain walks of
`hash_find/insert/remove`, the selection test of `hash_delete_if`, `REPLAY_HASH_SIZE`, the number
of MAC bytes kept, the comparator kernel `replay_cmp_f`, the expiry expression of
`replay_insert/remove`, the kernels `dec_validate_replay` (retry gate) and `dec_validate_time`,
the stage order of `dec_process_msg` and the condition under which it calls `replay_remove`
after a failed send (`rollbackCond`).

The model (`Munge.Replay.attempt`, `Sys.step`) takes the roll-back decision as a parameter
`rb`.  Theorems named `…_of_rollback_inserted` hold for every decision that fires only for a
request whose own `replay_insert` returned 0 (`RollbackSound`); `rollback_implies_inserted` is
the obligation that the decision read from the source is of that kind, and the unsuffixed
theorems instantiate the general ones with it.  `f7_counterexample` shows that the obligation is
not a technicality: with the decision "overall success" (the source before the F7 repair) the
full statement is false.
-/
namespace Munge.C05
open Munge.C Munge.Hash Munge.Replay Munge.Gen.Hash

/-- For every comparator that is a total order, every hash function, every table size and every
    sequence of insert / remove / find / delete-if operations, the real table's answers are those
    of a plain finite set, its chains stay sorted and every item stays in the slot of its hash.
    In particular `insert` reports a duplicate iff the key is present, and keys that share a
    bucket (`hf` constant is allowed) or a hash prefix never mask each other. -/
theorem hash_refines_set {κ : Type} [DecidableEq κ] (cmp : κ → κ → Int) (ho : CmpOrder cmp) (hf : κ → Nat)
    (size : Nat) (hsize : 0 < size) (ops : List (Op κ)) :
    (runTable cmp hf (Table.empty size) ops).2 = (runSet (fun _ => false) ops).2 ∧
    Inv cmp hf (runTable cmp hf (Table.empty size) ops).1 ∧
    ∀ x, x ∈ (runTable cmp hf (Table.empty size) ops).1.toList ↔ (runSet (fun _ => false) ops).1 x = true :=
  run_refines ho ops _ _ (inv_empty cmp hf hsize) (fun x => by simp [Table.toList_empty])

/-- `replay_cmp_f` (as translated, with C's `memcmp` on the kept MAC bytes) is such a total order:
    two replay keys compare equal iff they have the same kept MAC bytes and the same expiry. -/
theorem replay_cmp_total_order : CmpOrder Replay.cmp := cmpOrder

/-- `replay_insert` answers 1 (EEXIST) iff the key is in the table, 0 otherwise, and then exactly
    that key is added; `replay_remove` removes exactly the key `replay_insert` would build. -/
theorem replay_insert_spec (st : State) (hok : st.Ok) (c : Cred) :
    (st.has (insertKey c) → insert st c = (st, 1, EEXIST)) ∧
    (¬ st.has (insertKey c) → (insert st c).2.1 = 0 ∧ ∀ x, (insert st c).1.has x ↔ x = insertKey c ∨ st.has x) ∧
    (∀ x, (remove st c).1.has x ↔ st.has x ∧ x ≠ insertKey c) :=
  have h := insert_spec hok c
  ⟨h.dup, fun hn => ⟨congrArg Prod.fst (h.new hn), h.has_iff⟩, (remove_spec hok c).has_iff⟩

/-- The replay check is the last stage of `dec_process_msg`, after the MAC, authorisation and
    time checks (stage list read from the source). -/
theorem stage_order :
    stages.getLast? = some "dec_validate_replay" ∧
    stages.idxOf "dec_validate_mac" < stages.idxOf "dec_validate_auth" ∧
    stages.idxOf "dec_validate_auth" < stages.idxOf "dec_validate_time" ∧
    stages.idxOf "dec_validate_time" < stages.idxOf "dec_validate_replay" ∧
    stages.idxOf "dec_validate_replay" < stages.length := by
  decide

/-- A decode that ends invalid (any earlier stage failed), unauthorised, expired or rewound leaves
    the daemon's state — in particular the replay table — exactly as it was. -/
theorem failed_no_consume (rb : RollbackPred) (cfg : Cfg) (d : Daemon) (r : Req)
    (h : r.preErr ≠ 0 ∨ r.authOk = false ∨ ¬ timeOk cfg d.now r) :
    (attempt rb cfg d r).1 = d ∧ (attempt rb cfg d r).2.insertRet = none := by
  rw [(attempt_fail rb (not_passes.2 h)).1]; exact ⟨rfl, rfl⟩

/-- … and such a decode is never answered SUCCESS. -/
theorem failed_not_success (rb : RollbackPred) (cfg : Cfg) (d : Daemon) (r : Req)
    (h : r.preErr ≠ 0 ∨ r.authOk = false ∨ ¬ timeOk cfg d.now r) :
    (attempt rb cfg d r).2.code ≠ EMUNGE_SUCCESS := by
  rw [(attempt_fail rb (not_passes.2 h)).1]; exact (attempt_fail rb (not_passes.2 h)).2

/-- Requests for credentials with different replay keys (kept MAC bytes, expiry) never affect each
    other: whatever request `r1` did, the outcome of `r2` is what it would have been without it,
    and `r1` leaves the presence of every other key unchanged.  Holds for every roll-back
    decision. -/
theorem distinct_no_interference (rb : RollbackPred) (cfg : Cfg) (hv : cfg.Valid) (d : Daemon) (hok : d.Ok)
    (r1 r2 : Req) (hne : keyOf cfg r1 ≠ keyOf cfg r2) :
    (attempt rb cfg (attempt rb cfg d r1).1 r2).2 = (attempt rb cfg d r2).2 ∧
    ∀ x, x ≠ keyOf cfg r1 → ((attempt rb cfg d r1).1.replay.has x ↔ d.replay.has x) := by
  have h1 := attempt_frame rb hv hok r1
  have hoth : ∀ x, x ≠ keyOf cfg r1 → ((attempt rb cfg d r1).1.replay.has x ↔ d.replay.has x) :=
    fun x hx => by simp [h1.2 x, hx]
  exact ⟨attempt_outcome rb hv hok r2 h1.1 (attempt_now rb cfg d r1) (hoth _ (Ne.symm hne)), hoth⟩

/-- Credentials whose MACs differ within the kept bytes have different replay keys (so, under the
    assumption that the MAC binds the salt — `Mac16Binding`, not proved here — two credentials
    minted by identical requests in the same second never report each other as replayed). -/
theorem distinct_macs_distinct_keys (cfg : Cfg) (r1 r2 : Req)
    (h : r1.mac.take MAC_KEEP ≠ r2.mac.take MAC_KEEP) : keyOf cfg r1 ≠ keyOf cfg r2 :=
  fun e => h (congrArg Key.mac e)

/-- OBLIGATION on the source: `dec_process_msg` withdraws the replay entry after a failed send
    only if *this request's* `replay_insert` returned 0.  (On the source before the F7 repair the
    condition is `rc == 0`, which also holds for a retry-exempted request that inserted nothing:
    this theorem then fails to check, which is the intended alarm.) -/
theorem rollback_implies_inserted : RollbackSound genRollback := by
  intro retry gsr errno ins h
  have h := of_decide_eq_true h
  unfold rollbackCond at h
  -- the field is written only on the path taken when `replay_insert` returned 0
  kcases dec_validate_replay <;> simp [fieldsOf, KOut.written] at h <;> omega

/-- With the roll-back keyed on overall success (`rc == 0`) the decision is unsound: a request
    carrying retry = 1 is let through on an entry it did not insert, and would withdraw it. -/
theorem success_keyed_rollback_unsound : ¬ RollbackSound (fun rc _ => decide (rc = 0)) := by
  intro h
  have := h 1 1 EEXIST 1 (by decide)
  omega

/-- First decode: if the entry is absent, an authorised in-time request is answered SUCCESS, its
    `replay_insert` returned 0, and — when the reply is delivered — the entry is present
    afterwards. -/
theorem first_succeeds (rb : RollbackPred) (cfg : Cfg) (hv : cfg.Valid) (d : Daemon) (hok : d.Ok) (r : Req)
    (hpre : r.preErr = 0) (hauth : r.authOk = true) (ht : timeOk cfg d.now r)
    (habs : ¬ d.replay.has (keyOf cfg r)) :
    (attempt rb cfg d r).2.code = EMUNGE_SUCCESS ∧ (attempt rb cfg d r).2.insertRet = some 0 ∧
    (r.sendOk = true → (attempt rb cfg d r).2.delivered = true ∧ (attempt rb cfg d r).1.replay.has (keyOf cfg r)) := by
  have ho := attempt_snd rb hv hok r
  rw [if_pos ⟨hpre, hauth, ht⟩, if_neg habs] at ho
  have hc : (attempt rb cfg d r).2.code = EMUNGE_SUCCESS := by
    rw [ho]; exact (dec_validate_replay_code hv r.retry 0 0).1 rfl
  have hd : (attempt rb cfg d r).2.delivered = r.sendOk := by rw [ho]; rfl
  exact ⟨hc, by rw [ho]; rfl, fun hs => ⟨hd.trans hs, success_has rb hv hok ⟨hc, hd.trans hs⟩⟩⟩

/-- Later decode: if the entry is present, an authorised in-time request is answered REPLAYED,
    unless it is the documented exception (retries enabled and header retry count in
    `1..MUNGE_SOCKET_RETRY_ATTEMPTS`), which is answered SUCCESS. -/
theorem later_replayed (rb : RollbackPred) (cfg : Cfg) (hv : cfg.Valid) (d : Daemon) (hok : d.Ok) (r : Req)
    (hpre : r.preErr = 0) (hauth : r.authOk = true) (ht : timeOk cfg d.now r)
    (hpres : d.replay.has (keyOf cfg r)) :
    (¬ Exempt cfg r.retry → (attempt rb cfg d r).2.code = EMUNGE_CRED_REPLAYED) ∧
    (Exempt cfg r.retry → (attempt rb cfg d r).2.code = EMUNGE_SUCCESS) := by
  rw [attempt_snd rb hv hok r, if_pos ⟨hpre, hauth, ht⟩, if_pos hpres]
  have h := (dec_validate_replay_code hv r.retry EEXIST 1).2
  exact ⟨h.2 Int.one_pos, h.1 Int.one_pos⟩

/-- AT MOST ONCE, sequentially, for any sound roll-back decision.  On any daemon state (i.e. after
    any history), let request `ri` be answered SUCCESS with the reply delivered.  Then after any
    further history `mid` in which the entry is not purged (every purge tick comes at a clock value
    `≤` the key's expiry), a request `rj` for the same credential is not answered SUCCESS unless
    it is the documented retry exception; if it is authorised and in time it is answered
    REPLAYED. -/
theorem at_most_once_of_rollback_inserted (rb : RollbackPred) (hrb : RollbackSound rb)
    (cfg : Cfg) (hv : cfg.Valid) (d : Daemon) (hok : d.Ok) (ri rj : Req) (mid : List Ev)
    (hkey : keyOf cfg rj = keyOf cfg ri)
    (hsucc : (attempt rb cfg d ri).2.code = EMUNGE_SUCCESS ∧ (attempt rb cfg d ri).2.delivered = true)
    (hlive : keptBy (keyOf cfg ri) d.now mid) :
    ((attempt rb cfg (run rb cfg (attempt rb cfg d ri).1 mid).1 rj).2.code = EMUNGE_SUCCESS → Exempt cfg rj.retry) ∧
    (rj.preErr = 0 → rj.authOk = true → timeOk cfg (run rb cfg (attempt rb cfg d ri).1 mid).1.now rj →
      ¬ Exempt cfg rj.retry → (attempt rb cfg (run rb cfg (attempt rb cfg d ri).1 mid).1 rj).2.code = EMUNGE_CRED_REPLAYED) :=
  have h := (replayed_after rb hv hok (Or.inl hrb) hkey (success_has rb hv hok hsucc) hlive).2
  ⟨h.1, fun h1 h2 h3 => h.2 ⟨h1, h2, h3⟩⟩

/-- AT MOST ONCE, sequentially, for the daemon as its source reads now. -/
theorem at_most_once_seq (cfg : Cfg) (hv : cfg.Valid) (d : Daemon) (hok : d.Ok) (ri rj : Req) (mid : List Ev)
    (hkey : keyOf cfg rj = keyOf cfg ri)
    (hsucc : (attempt genRollback cfg d ri).2.code = EMUNGE_SUCCESS ∧ (attempt genRollback cfg d ri).2.delivered = true)
    (hlive : keptBy (keyOf cfg ri) d.now mid) :
    ((attempt genRollback cfg (run genRollback cfg (attempt genRollback cfg d ri).1 mid).1 rj).2.code = EMUNGE_SUCCESS →
      Exempt cfg rj.retry) ∧
    (rj.preErr = 0 → rj.authOk = true → timeOk cfg (run genRollback cfg (attempt genRollback cfg d ri).1 mid).1.now rj →
      ¬ Exempt cfg rj.retry →
      (attempt genRollback cfg (run genRollback cfg (attempt genRollback cfg d ri).1 mid).1 rj).2.code = EMUNGE_CRED_REPLAYED) :=
  at_most_once_of_rollback_inserted genRollback rollback_implies_inserted cfg hv d hok ri rj mid hkey hsucc hlive

/-- What holds of every roll-back decision, sound or not (in particular of the source before the
    F7 repair): the same conclusion, provided every request for this credential in between has its
    reply delivered. -/
theorem at_most_once_partial (rb : RollbackPred) (cfg : Cfg) (hv : cfg.Valid) (d : Daemon) (hok : d.Ok)
    (ri rj : Req) (mid : List Ev) (hkey : keyOf cfg rj = keyOf cfg ri)
    (hpres1 : (attempt rb cfg d ri).1.replay.has (keyOf cfg ri))
    (hdel : repliesDelivered cfg (keyOf cfg ri) mid)
    (hlive : keptBy (keyOf cfg ri) d.now mid) :
    (attempt rb cfg (run rb cfg (attempt rb cfg d ri).1 mid).1 rj).2.code = EMUNGE_SUCCESS → Exempt cfg rj.retry :=
  (replayed_after rb hv hok (Or.inr hdel) hkey hpres1 hlive).2.1

/-- AT MOST ONCE, concurrently, for any sound roll-back decision.  `k` requests that reach the
    replay stage run their atomic steps (replay stage incl. `replay_insert` | send | roll back) in
    an arbitrary interleaving `sched`, starting from any well-formed table.  Then at every point:
    per key at most one request has inserted and not withdrawn ("holder"), a holder's key is
    present, every present key was either there initially or has a holder — so starting from an
    empty table, the number of holders of a key is 1 iff the key is present; keys present
    initially stay present.  Hence two different first-attempt (not retry-exempted) requests for
    the same credential are never both answered SUCCESS with the reply delivered, and none is if
    the key was present initially. -/
theorem at_most_once_conc_of_rollback_inserted (rb : RollbackPred) (hrb : RollbackSound rb)
    (cfg : Cfg) (hv : cfg.Valid) (reqs : Nat → CReq) (st : State) (hok : st.Ok) (sched : List Nat) :
    let s := Sys.run rb cfg reqs ⟨st, fun _ => {}⟩ sched
    (∀ i j, i ≠ j → ckey reqs i = ckey reqs j → ¬ (holder s i ∧ holder s j)) ∧
    (∀ i, holder s i → s.replay.has (ckey reqs i)) ∧
    (∀ k, s.replay.has k → st.has k ∨ ∃ i, holder s i ∧ ckey reqs i = k) ∧
    (∀ k, st.has k → s.replay.has k) ∧
    (∀ i j, i ≠ j → ckey reqs i = ckey reqs j → ¬ Exempt cfg (reqs i).retry → ¬ Exempt cfg (reqs j).retry →
      ¬ (deliveredSuccess reqs s i ∧ deliveredSuccess reqs s j)) ∧
    (∀ i, st.has (ckey reqs i) → ¬ Exempt cfg (reqs i).retry → ¬ deliveredSuccess reqs s i) := by
  intro s
  have hinv : ConcInv cfg reqs (fun k => st.has k) s := concInv_run rb hrb cfg reqs _ sched _ (concInv_init cfg reqs st hok)
  have huniq : ∀ i j, i ≠ j → ckey reqs i = ckey reqs j → ¬ (holder s i ∧ holder s j) :=
    fun i j hij hk h => hij (hinv.owns.uniq i j h.1 h.2 hk)
  -- a delivered first-attempt SUCCESS belongs to a holder
  have hds : ∀ i, ¬ Exempt cfg (reqs i).retry → deliveredSuccess reqs s i → holder s i := by
    intro i hne ⟨hpc, hsend, hcode⟩
    obtain ⟨hins, errno, _, _, hc⟩ := (hinv.loc i).cons (by omega)
    have hw : (s.loc i).withdrew = false := (hinv.loc i).wd.resolve_right fun h => by simp [hsend] at h
    refine ⟨by omega, hins.resolve_right fun h1 => ?_, hw⟩
    rw [hc, h1, (dec_validate_replay_code hv _ _ _).2.2 Int.one_pos hne] at hcode
    exact absurd hcode (by decide)
  exact ⟨huniq, fun i h => (hinv.owns.mem _).2 (Or.inr ⟨i, h, rfl⟩), fun k => (hinv.owns.mem k).1,
    fun k h => (hinv.owns.mem k).2 (Or.inl h), fun i j hij hkey hi hj h => huniq i j hij hkey ⟨hds i hi h.1, hds j hj h.2⟩,
    fun i hb hne h => hinv.owns.fresh i (hds i hne h) hb⟩

/-- AT MOST ONCE, concurrently, for the daemon as its source reads now. -/
theorem at_most_once_conc (cfg : Cfg) (hv : cfg.Valid) (reqs : Nat → CReq) (st : State) (hok : st.Ok) (sched : List Nat) :
    let s := Sys.run genRollback cfg reqs ⟨st, fun _ => {}⟩ sched
    (∀ i j, i ≠ j → ckey reqs i = ckey reqs j → ¬ (holder s i ∧ holder s j)) ∧
    (∀ i, holder s i → s.replay.has (ckey reqs i)) ∧
    (∀ k, s.replay.has k → st.has k ∨ ∃ i, holder s i ∧ ckey reqs i = k) ∧
    (∀ k, st.has k → s.replay.has k) ∧
    (∀ i j, i ≠ j → ckey reqs i = ckey reqs j → ¬ Exempt cfg (reqs i).retry → ¬ Exempt cfg (reqs j).retry →
      ¬ (deliveredSuccess reqs s i ∧ deliveredSuccess reqs s j)) ∧
    (∀ i, st.has (ckey reqs i) → ¬ Exempt cfg (reqs i).retry → ¬ deliveredSuccess reqs s i) :=
  at_most_once_conc_of_rollback_inserted genRollback rollback_implies_inserted cfg hv reqs st hok sched

/-- the concrete history of F7 on a fresh daemon: `A` decodes (retry 0, delivered); `D` presents
    the same credential with header retry = 1 and its reply cannot be sent; `E` presents it again
    with retry 0 (`f7A` once more) -/
def f7Cred : List UInt8 := [1, 2, 3, 4, 5, 6, 7, 8, 9, 10, 11, 12, 13, 14, 15, 16]
def f7A : Req := ⟨f7Cred, 1000, 300, 0, 0, true, true⟩
def f7D : Req := ⟨f7Cred, 1000, 300, 1, 0, true, false⟩
def f7Start : Daemon := ⟨initSized 3 {}, 1000⟩

/-- With the roll-back keyed on overall success, the history `[A; D; E]` answers SUCCESS to two
    first-attempt requests for the same credential with no purge in between: the full-strength
    statement is FALSE of that decision.  (This is defect F7 of the source before its repair.) -/
theorem f7_counterexample :
    let rb : RollbackPred := fun rc _ => decide (rc = 0)
    let out := (run rb {} f7Start [.req f7A, .req f7D, .req f7A]).2
    out.map (fun o => o.map (fun o => (o.code, o.delivered))) =
      [some (EMUNGE_SUCCESS, true), some (EMUNGE_SUCCESS, false), some (EMUNGE_SUCCESS, true)] := by
  decide +kernel

/-- the default configuration is valid, the fresh daemon is well-formed -/
example : ({} : Cfg).Valid := ⟨by decide, by decide, by decide⟩
example : f7Start.Ok := ⟨wf_initSized _ (fun t h => by simp at h) (by decide), ⟨_, rfl⟩⟩
/-- with a sound decision ("this request inserted"), the same history answers REPLAYED to `E` -/
example :
    ((run (fun rc fld => decide (rc = 0) && decide (fld "inserted" ≠ 0)) {} f7Start [.req f7A, .req f7D, .req f7A]).2.map
      (fun o => o.map (fun o => o.code))) = [some 0, some 0, some 17] := by
  decide +kernel

end Munge.C05
