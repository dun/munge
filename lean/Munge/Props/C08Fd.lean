import Munge.Lemmas.Fd
/-
C08, item "Deadline": the timed I/O routines of src/libcommon/fd.c never wait past their deadline (plus rounding),
report exactly what they transferred, do not spin, and never lose, repeat or reorder a byte -- for EVERY environment
script (arrival times, EINTR storms, spurious readiness, EOF, errors, short writes of every size, clock steps).

The statements are about `run (routineOf k)`, the model of lean/Munge/Model/Fd.lean over the decision kernels that
tools/gen/g_fd.py cuts out of the current fd.c (`Munge.Gen.Fd`).  `kernels_are_spec` re-proves on every run that those
kernels are the reviewed ones; everything else is transported from lean/Munge/Lemmas/Fd.lean.  harness/h_fd.c diffs the
model against the real fd.c on scripted environments.
-/
namespace Munge.C08Fd
open Munge.Fd Munge.C Munge

/-- the routine of fd.c of each kind, assembled from the generated kernels -/
def routineOf : Kind → Routine
  | .readN => readN
  | .writeN => writeN
  | .writeIov => writeIov

/-- A generated kernel `k` against its reviewed reading (the `Spec` side, already unfolded in the goal), for all arguments:
    the cases are those of the reviewed reading.  While fd.c writes its tests as the reviewed reading does, `simp` evaluates
    the generated if-chain under the hypotheses of the case; after a harmless rewrite of the C (tests reordered, negated,
    flipped) the chain is analysed path by path and `omega` refutes the paths that contradict the case. -/
macro "kernel_eq" k:ident : tactic => `(tactic|
  (funext
   (repeat' split) <;> first
    | (simp [$k:ident, KOut.get, KOut.written, KOut.calls, *]; done)
    | (kcases $k <;> first | rfl | omega)))

/-- `_fd_get_poll_timeout` as translated from fd.c computes what the reviewed reading `Spec.tmo` says:
    -1 without reading the clock for `when == NULL`, 0 without reading the clock for a zero `when`, otherwise
    `max 0 ((when.sec - now.sec) * 1000 + (when.usec - now.usec + 999) / 1000)` in C `long`/`int` arithmetic. -/
theorem tmo_is_spec : tmoGen = Spec.tmo := by
  unfold tmoGen Spec.tmo Spec.rawMsecs
  kernel_eq Gen.Fd.fd_get_poll_timeout

/-- The decision kernels generated from the current `fd_timed_read_n` are the reviewed ones: argument guard, the
    do_skip_first_poll jump, loop condition, remaining-time computation, the chain after poll (EINTR/EAGAIN continue,
    other errors -1, 0 = timeout with errno ETIMEDOUT and break, POLLNVAL -> EBADF, POLLERR -> EIO), the tail after read
    (EINTR/EAGAIN continue, other errors -1, 0 = EOF break, accumulate, break if the timeout was 0), `return n - nleft`. -/
theorem readN_is_spec : readN = Spec.routine .readN := by
  unfold Spec.routine Spec.guard2 Spec.skip Spec.cond Spec.afterPollR Spec.afterIoR
  simp only [readN, Routine.mk.injEq]
  -- here and in the next two: one conjunct per field of `Routine`, in its order (`kind` and `events` first)
  refine ⟨trivial, rfl, ?guard, ?skip, ?cond, tmo_is_spec, ?afterPoll, ?afterIo, rfl, trivial, trivial⟩
  · kernel_eq Gen.Fd.read_guard
  · kernel_eq Gen.Fd.read_skip
  · kernel_eq Gen.Fd.read_cond
  · kernel_eq Gen.Fd.read_afterPoll
  · kernel_eq Gen.Fd.read_afterIo

/-- The same for `fd_timed_write_n` (additionally POLLHUP -> break; no EOF case after write). -/
theorem writeN_is_spec : writeN = Spec.routine .writeN := by
  unfold Spec.routine Spec.guard2 Spec.skip Spec.cond Spec.afterPollW Spec.afterIoW
  simp only [writeN, Routine.mk.injEq]
  refine ⟨trivial, rfl, ?guard, ?skip, ?cond, tmo_is_spec, ?afterPoll, ?afterIo, rfl, trivial, trivial⟩
  · kernel_eq Gen.Fd.write_guard
  · kernel_eq Gen.Fd.write_skip
  · kernel_eq Gen.Fd.write_cond
  · kernel_eq Gen.Fd.write_afterPoll
  · kernel_eq Gen.Fd.write_afterIo

/-- The same for `fd_timed_write_iov`, including the loop that advances the private iovec copy after a short write:
    `for (i = 0; i < iov_cnt && nwritten > 0; i++) { n = min (nwritten, iov[i].iov_len); if (n == 0) continue;
    nwritten -= n; iov[i].iov_len -= n; iov[i].iov_base += n; }`. -/
theorem writeIov_is_spec : writeIov = Spec.routine .writeIov := by
  unfold Spec.routine Spec.guard3 Spec.skip Spec.cond Spec.afterPollW Spec.afterIoW Spec.advCond Spec.advBody Spec.advTake
  simp only [writeIov, Routine.mk.injEq]
  refine ⟨trivial, rfl, ?guard, ?skip, ?cond, tmo_is_spec, ?afterPoll, ?afterIo, rfl, ?advCond, ?advBody⟩
  · kernel_eq Gen.Fd.iov_guard
  · kernel_eq Gen.Fd.iov_skip
  · kernel_eq Gen.Fd.iov_cond
  · kernel_eq Gen.Fd.iov_afterPoll
  · kernel_eq Gen.Fd.iov_afterIo
  · kernel_eq Gen.Fd.iovadv_cond
  -- the minimum is an `if` inside the tests and the values of this kernel, and a case such as `l = 0` rewrites the other
  -- hypotheses of its case: `simp_all` brings hypotheses and goal to one form
  · funext nw l; unfold Gen.Fd.iovadv_body
    (repeat' split) <;> simp_all [KOut.get, KOut.written]

/-- all three at once -/
theorem kernels_are_spec (k : Kind) : routineOf k = Spec.routine k := by
  cases k
  · exact readN_is_spec
  · exact writeN_is_spec
  · exact writeIov_is_spec

/-- errno / poll constants the reviewed kernels are written with are the platform's -/
theorem constants_as_reviewed :
    Gen.Fd.EINTR = 4 ∧ Gen.Fd.EAGAIN = 11 ∧ Gen.Fd.ETIMEDOUT = 110 ∧ Gen.Fd.EBADF = 9 ∧ Gen.Fd.EIO = 5 ∧ Gen.Fd.EINVAL = 22 ∧
    Gen.Fd.POLLIN = 1 ∧ Gen.Fd.POLLOUT = 4 ∧ Gen.Fd.POLLERR = 8 ∧ Gen.Fd.POLLHUP = 16 ∧ Gen.Fd.POLLNVAL = 32 ∧
    Gen.Fd.MUNGE_SOCKET_TIMEOUT_MSECS = 2000 ∧ Gen.Fd.degraded = false := by
  decide

/-- Rounding of `_fd_get_poll_timeout` (for a deadline and a clock reading within ±2·10⁶ s of each other, tv_usec
    normalised): if the deadline `ws·10⁶ + wu` has passed at the reading `w`, the timeout is 0 (poll does not block);
    otherwise the timeout in milliseconds is never shorter than the remaining time (no early time-out, no spinning just
    before the deadline) and exceeds it by at most 1998 µs -- not the 999 µs the comment "round up to the next
    millisecond" suggests, because `(when->tv_usec - now.tv_usec + 999) / 1000` truncates towards zero when the
    microsecond difference is negative. -/
theorem poll_timeout_rounding (wp ws wu w : Int) (hp : wp ≠ 0) (hz : ¬(ws = 0 ∧ wu = 0)) (h : InRange ws wu w) :
    (ws * 1000000 + wu - w ≤ 0 → (tmoGen wp ws wu (w / 1000000) (w % 1000000)).1 = 0) ∧
    (ws * 1000000 + wu - w > 0 →
      ws * 1000000 + wu - w ≤ 1000 * (tmoGen wp ws wu (w / 1000000) (w % 1000000)).1 ∧
      1000 * (tmoGen wp ws wu (w / 1000000) (w % 1000000)).1 ≤ ws * 1000000 + wu - w + 1998) := by
  rw [tmo_is_spec]; exact tmo_bounds hp hz h

/-- The rounding bound is attained: deadline 11.000000 s, clock 10.001998 s: 998.002 ms remain, poll is given 1000 ms. -/
theorem poll_timeout_rounding_tight : (tmoGen 1 11 0 10 1998).1 = 1000 := by decide

/-- `_get_timeval (&tv, msecs)` of m_msg.c, for a sane clock and 0 < msecs: the result is normalised and is exactly
    now + msecs (the microsecond carry is right); msecs ≤ 0 leaves `now`. -/
theorem get_timeval_sum (now msecs : Int) (h0 : 0 ≤ now) (h1 : now ≤ 4000000000000000000)
    (hm : msecs ≤ 2147483647) :
    (0 < msecs → 0 ≤ (getTimeval now msecs).2 ∧ (getTimeval now msecs).2 < 1000000 ∧
      (getTimeval now msecs).1 * 1000000 + (getTimeval now msecs).2 = now + 1000 * msecs) ∧
    (msecs ≤ 0 → getTimeval now msecs = (now / 1000000, now % 1000000)) := by
  constructor
  · intro hpos
    have e1 : cmod msecs 1000 = msecs % 1000 := Int.tmod_eq_emod_of_nonneg (by omega)
    have e2 : cdiv msecs 1000 = msecs / 1000 := Int.tdiv_eq_ediv_of_nonneg (by omega)
    simp only [getTimeval, Gen.Fd.get_timeval, KOut.get, KOut.written, List.find?, String.reduceBEq,
      Option.map_some, Option.getD_some, e1, e2, show ¬ ((0 : Int) < 0) by omega, if_false, hpos, if_true]
    -- whole seconds of the clock `a`, of the timeout `b`, and the microseconds `u` before the carry
    have hsum : now + 1000 * msecs = 1000000 * (now / 1000000 + msecs / 1000) + (now % 1000000 + msecs % 1000 * 1000) := by omega
    have hb : 0 ≤ msecs / 1000 ∧ msecs / 1000 ≤ 2147483 := by omega
    have hu : 0 ≤ now % 1000000 + msecs % 1000 * 1000 ∧ now % 1000000 + msecs % 1000 * 1000 < 2000000 := by omega
    generalize now / 1000000 = a at *
    generalize msecs / 1000 = b at *
    generalize now % 1000000 + msecs % 1000 * 1000 = u at *
    rw [hsum]
    have e3 : cmod u 1000000 = u % 1000000 := Int.tmod_eq_emod_of_nonneg hu.1
    have e4 : cdiv u 1000000 = u / 1000000 := Int.tdiv_eq_ediv_of_nonneg hu.1
    simp only [e3, e4, wrapS64_id (x := u) (by omega) (by omega), wrapS32_id (x := b) (by omega) (by omega),
      wrapS64_id (x := a + b) (by omega) (by omega), wrapS64_id (x := u / 1000000) (by omega) (by omega),
      wrapS64_id (x := a + b + u / 1000000) (by omega) (by omega)]
    split <;> omega
  · intro hle
    have hn : ¬ (msecs > 0) := by omega
    simp [getTimeval, Gen.Fd.get_timeval, KOut.get, KOut.written, hn]

/-- **bounded_wait.**  For every routine, every parameter set with a real deadline `D = ws·10⁶ + wu` (µs) and every
    environment script: the time spent blocked inside poll() -- the only place the routine can wait, the descriptor
    being non-blocking -- is at most

        slack D start + credit pollQ

    where `slack D start` = the time from the clock at entry to the deadline plus 1998 µs of rounding (0 if the deadline
    has already passed) and `credit pollQ` = Σ over the BACKWARD clock steps in the script of (size of the step +
    1998 µs).  Forward steps and everything else (EINTR at any time, EAGAIN, spurious readiness, data trickling in) add
    nothing: the remaining time is recomputed from a fresh clock reading before every poll.  Hypothesis: the clock
    readings the routine obtains stay within the range in which `_fd_get_poll_timeout`'s `int` arithmetic is exact
    (`sane`; fd.c notes the overflow otherwise). -/
theorem bounded_wait (k : Kind) (cfg : Cfg) (pq : List PollEv) (iq : List IoEv)
    (hw : cfg.whenP ≠ 0) (hz : ¬(cfg.ws = 0 ∧ cfg.wu = 0)) :
    sane cfg.ws cfg.wu (run (routineOf k) cfg pq iq).st.trace →
    (run (routineOf k) cfg pq iq).st.blocked ≤ slack (cfg.ws * 1000000 + cfg.wu) cfg.start + credit pq := by
  rw [kernels_are_spec]
  exact bounded_wait_gen _ cfg pq iq (spec_tmo k) hw hz

/-- With a clock that is not stepped backwards the wait is at most (deadline − clock at entry) + 1998 µs, and nothing
    if the deadline has passed at entry. -/
theorem bounded_wait_steady_clock (k : Kind) (cfg : Cfg) (pq : List PollEv) (iq : List IoEv)
    (hw : cfg.whenP ≠ 0) (hz : ¬(cfg.ws = 0 ∧ cfg.wu = 0)) (hj : ∀ d, PollEv.jump d ∈ pq → 0 ≤ d) :
    sane cfg.ws cfg.wu (run (routineOf k) cfg pq iq).st.trace →
    (run (routineOf k) cfg pq iq).st.blocked ≤
      (if cfg.ws * 1000000 + cfg.wu - cfg.start > 0 then cfg.ws * 1000000 + cfg.wu - cfg.start + 1998 else 0) := by
  intro hs
  have h := bounded_wait k cfg pq iq hw hz hs
  rw [credit_eq_zero hj] at h
  simpa [slack] using h

/-- m_msg_send / m_msg_recv: the deadline is `_get_timeval (now, MUNGE_SOCKET_TIMEOUT_MSECS)`; with a steady clock a
    whole message (header and body share the one deadline) blocks the calling thread for at most 2.001998 s. -/
theorem socket_timeout_bound (k : Kind) (cfg : Cfg) (pq : List PollEv) (iq : List IoEv)
    (h0 : 0 ≤ cfg.start) (h1 : cfg.start ≤ 4000000000000000000) (hw : cfg.whenP ≠ 0)
    (hd : (cfg.ws, cfg.wu) = getTimeval cfg.start Gen.Fd.MUNGE_SOCKET_TIMEOUT_MSECS)
    (hj : ∀ d, PollEv.jump d ∈ pq → 0 ≤ d) :
    sane cfg.ws cfg.wu (run (routineOf k) cfg pq iq).st.trace →
    (run (routineOf k) cfg pq iq).st.blocked ≤ 2001998 := by
  intro hs
  have hg := (get_timeval_sum cfg.start Gen.Fd.MUNGE_SOCKET_TIMEOUT_MSECS h0 h1 (by decide)).1 (by decide)
  rw [← hd, show Gen.Fd.MUNGE_SOCKET_TIMEOUT_MSECS = 2000 from rfl] at hg
  have hz : ¬(cfg.ws = 0 ∧ cfg.wu = 0) := by omega
  have := bounded_wait_steady_clock k cfg pq iq hw hz hj hs
  omega

/-- **returns_count_or_error.**  For every script (requested total `N` within `ssize_t`): the call returns, and either
    * it returns -1 and errno is a real error -- never EINTR, never EAGAIN (those lead back to poll); or
    * it returns the number of bytes actually transferred, `0 ≤ ret ≤ N` (`N - nleft`, and `progress_preserved` /
      `write_exact` / `iov_exact` say which bytes those are); a routine-signalled time-out is a SHORT count with
      errno = ETIMEDOUT, never -1 and never a complete count: errno = ETIMEDOUT implies ret < N. -/
theorem returns_count_or_error (k : Kind) (cfg : Cfg) (pq : List PollEv) (iq : List IoEv) (hpre : Pre k cfg) :
    (run (routineOf k) cfg pq iq).diverged = false ∧
    (((run (routineOf k) cfg pq iq).ret = -1 ∧ (run (routineOf k) cfg pq iq).errno ≠ Gen.Fd.EINTR ∧
        (run (routineOf k) cfg pq iq).errno ≠ Gen.Fd.EAGAIN) ∨
     ((run (routineOf k) cfg pq iq).ret = total (routineOf k) cfg - (run (routineOf k) cfg pq iq).st.nleft ∧
      0 ≤ (run (routineOf k) cfg pq iq).ret ∧ (run (routineOf k) cfg pq iq).ret ≤ total (routineOf k) cfg ∧
      ((run (routineOf k) cfg pq iq).errno = Gen.Fd.ETIMEDOUT →
        (run (routineOf k) cfg pq iq).ret < total (routineOf k) cfg))) := by
  rw [kernels_are_spec]
  have ht := run_terminates k cfg pq iq
  obtain ⟨hc, -⟩ := ctl_run k cfg pq iq
  obtain ⟨d0, d1, -⟩ := data_run k cfg pq iq hpre
  obtain ⟨p0, p1, -⟩ := hpre
  refine ⟨ht, ?_⟩
  rcases hc ht with h | ⟨h1, h2⟩
  · exact Or.inl h
  · right
    rw [ret_eq_sub d0 d1 p1] at h1
    refine ⟨h1, by omega, by omega, fun he => ?_⟩
    have := h2 he; omega

/-- A time-out detected by the routine (its last call is a poll that returned 0) is reported exactly as m_msg.c expects:
    a non-negative short count and errno = ETIMEDOUT. -/
theorem timeout_is_short_count (k : Kind) (cfg : Cfg) (pq : List PollEv) (iq : List IoEv) (hpre : Pre k cfg)
    (m sl : Int) (hl : (run (routineOf k) cfg pq iq).st.trace.getLast? = some (Call.poll m 0 sl)) :
    (run (routineOf k) cfg pq iq).errno = Gen.Fd.ETIMEDOUT ∧ 0 ≤ (run (routineOf k) cfg pq iq).ret ∧
    (run (routineOf k) cfg pq iq).ret < total (routineOf k) cfg := by
  rw [kernels_are_spec] at hl ⊢
  obtain ⟨-, hc⟩ := ctl_run k cfg pq iq
  obtain ⟨d0, d1, -⟩ := data_run k cfg pq iq hpre
  obtain ⟨p0, p1, -⟩ := hpre
  obtain ⟨h1, h2, h3⟩ := hc ⟨m, sl, hl⟩
  rw [ret_eq_sub d0 d1 p1] at h1
  exact ⟨h2, by omega, by omega⟩

/-- How m_msg_send / m_msg_recv read the result (`n < 0` -> error text, `errno == ETIMEDOUT` -> "Timed-out",
    `n != wanted` -> "incomplete"; chain extracted from m_msg.c as `Gen.Fd.callerClass`, errno being 0 at entry):
    the message is accepted as complete iff every requested byte was transferred; "failed" iff the routine returned -1;
    "timed out" and "incomplete" both mean a short count. -/
theorem caller_classification (k : Kind) (cfg : Cfg) (pq : List PollEv) (iq : List IoEv) (hpre : Pre k cfg) :
    (Gen.Fd.callerClass (run (routineOf k) cfg pq iq).ret (run (routineOf k) cfg pq iq).errno (total (routineOf k) cfg) = 0 ↔
      (run (routineOf k) cfg pq iq).st.nleft = 0 ∧ (run (routineOf k) cfg pq iq).ret = total (routineOf k) cfg) ∧
    (Gen.Fd.callerClass (run (routineOf k) cfg pq iq).ret (run (routineOf k) cfg pq iq).errno (total (routineOf k) cfg) = 1 ↔
      (run (routineOf k) cfg pq iq).ret = -1) ∧
    (Gen.Fd.callerClass (run (routineOf k) cfg pq iq).ret (run (routineOf k) cfg pq iq).errno (total (routineOf k) cfg) ≥ 2 →
      0 ≤ (run (routineOf k) cfg pq iq).ret ∧ (run (routineOf k) cfg pq iq).ret < total (routineOf k) cfg) := by
  obtain ⟨-, h⟩ := returns_count_or_error k cfg pq iq hpre
  have hN := hpre.1
  rw [← kernels_are_spec] at hN
  unfold Gen.Fd.callerClass
  simp only [Gen.Fd.ETIMEDOUT] at h
  refine ⟨?_, ?_, ?_⟩ <;> (repeat' split) <;> omega

/-- **no_busy_spin.**  With a real deadline, for every script: the routine returns; every trip around the loop that is
    followed by another one has consumed an event of the environment (an EINTR, an EAGAIN, some bytes ...), so
    #polls ≤ #events consumed + 1 -- the routine never iterates on its own; every I/O attempt except a possible first
    one (do_skip_first_poll) is preceded by its own poll (#I/O calls ≤ #polls + 1), and every poll by its own clock
    reading (#readings = #polls) with a non-negative (finite) timeout: an EINTR or EAGAIN leads back to a poll whose
    timeout is recomputed, never to an immediate retry. -/
theorem no_busy_spin (k : Kind) (cfg : Cfg) (pq : List PollEv) (iq : List IoEv)
    (hw : cfg.whenP ≠ 0) (hz : ¬(cfg.ws = 0 ∧ cfg.wu = 0)) :
    (run (routineOf k) cfg pq iq).diverged = false ∧
    npolls (run (routineOf k) cfg pq iq).st.trace + remaining (run (routineOf k) cfg pq iq).st ≤ pq.length + iq.length + 1 ∧
    nios (run (routineOf k) cfg pq iq).st.trace ≤ npolls (run (routineOf k) cfg pq iq).st.trace + 1 ∧
    ngets (run (routineOf k) cfg pq iq).st.trace = npolls (run (routineOf k) cfg pq iq).st.trace ∧
    tmoNonneg (run (routineOf k) cfg pq iq).st.trace := by
  rw [kernels_are_spec]
  exact ⟨run_terminates k cfg pq iq, calls_run k cfg pq iq hw hz⟩

/-- The routines return on every script, with or without a deadline. -/
theorem terminates (k : Kind) (cfg : Cfg) (pq : List PollEv) (iq : List IoEv) :
    (run (routineOf k) cfg pq iq).diverged = false := by
  rw [kernels_are_spec]; exact run_terminates k cfg pq iq

/-- **progress_preserved** (fd_timed_read_n).  For every script, whatever the interleaving of EINTR, EAGAIN, short reads
    and time-outs: with `c = n - nleft` the count at return (the return value whenever it is not -1), the user buffer
    holds exactly the first `c` bytes of the peer's stream, in order, followed by untouched bytes, and the bytes still
    unread in the socket are exactly the rest of the stream -- nothing lost, nothing read twice, nothing misplaced. -/
theorem progress_preserved (cfg : Cfg) (pq : List PollEv) (iq : List IoEv) (h0 : 0 ≤ cfg.n) (h1 : cfg.n < 9223372036854775808) :
    0 ≤ cfg.n - (run readN cfg pq iq).st.nleft ∧ cfg.n - (run readN cfg pq iq).st.nleft ≤ cfg.n ∧
    (run readN cfg pq iq).st.buf =
      cfg.data.take (cfg.n - (run readN cfg pq iq).st.nleft).toNat ++
        List.replicate (cfg.n.toNat - (cfg.n - (run readN cfg pq iq).st.nleft).toNat) 0 ∧
    (run readN cfg pq iq).st.src = cfg.data.drop (cfg.n - (run readN cfg pq iq).st.nleft).toNat := by
  rw [readN_is_spec]
  obtain ⟨d0, (d1 : _ ≤ cfg.n), -, d3, d4⟩ := data_run .readN cfg pq iq ⟨h0, h1, nofun⟩
  exact ⟨by omega, by omega, d4, d3⟩

/-- **write_exact** (fd_timed_write_n).  For every script the peer has received exactly the first `n - nleft` bytes of
    the user buffer, each once, in order. -/
theorem write_exact (cfg : Cfg) (pq : List PollEv) (iq : List IoEv) (h0 : 0 ≤ cfg.n) (h1 : cfg.n < 9223372036854775808)
    (h2 : cfg.n ≤ cfg.data.length) :
    (run writeN cfg pq iq).st.sink = cfg.data.take (cfg.n - (run writeN cfg pq iq).st.nleft).toNat := by
  rw [writeN_is_spec]
  exact (data_run .writeN cfg pq iq ⟨h0, h1, fun _ => h2⟩).2.2.2

/-- **iov_exact** (fd_timed_write_iov).  For every iovec (any number of elements, empty ones included) and every split
    of the kernel's short writes, interleaved with EINTR / EAGAIN / time-outs: the peer has received exactly the first
    `total - nleft` bytes of the concatenation of the elements -- every byte once, in order; the private iovec copy is
    advanced by exactly what was written. -/
theorem iov_exact (cfg : Cfg) (pq : List PollEv) (iq : List IoEv) (h1 : (cfg.chunks.flatten.length : Int) < 9223372036854775808) :
    (run writeIov cfg pq iq).st.sink =
      cfg.chunks.flatten.take ((cfg.chunks.flatten.length : Int) - (run writeIov cfg pq iq).st.nleft).toNat := by
  rw [writeIov_is_spec]
  have hpre : Pre .writeIov cfg := ⟨by rw [total_iov]; omega, by rw [total_iov]; exact h1, by simp⟩
  obtain ⟨-, -, -, d4⟩ := data_run .writeIov cfg pq iq hpre
  rw [total_iov] at d4
  exact d4

/-- the advance loop on its own: after a short write of `nw` bytes the private iovec copy designates exactly the bytes
    it designated before minus the first `nw` -/
theorem iov_advance_exact (arena : List UInt8) (iov : List (Int × Int)) (nw : Int)
    (hwf : IovWF arena iov) (ht : (iovTotal iov : Int) < 9223372036854775808) (h0 : 0 ≤ nw) (hn : nw ≤ iovTotal iov) :
    flatAll arena (iovAdvance writeIov (iov.length : Nat) 0 iov nw) = (flatAll arena iov).drop nw.toNat := by
  rw [writeIov_is_spec]
  exact (adv_flat arena _ iov 0 nw hwf ht (by omega) h0 hn).1

/-! non-vacuity: concrete runs of the generated routines (the hypotheses above are satisfiable, the outcomes are
     the intended ones) -/

def ex_stalled_client : Result :=
  run readN { n := 4, skip := 1, ws := 12, wu := 0, start := 10000000, data := [1, 2, 3, 4, 5] }
            [.ready 1000 1, .ready 9000000 1] [.fail 11, .xfer 2, .xfer 5]

/-- a client that stalls after 2 of 4 bytes is dropped at the deadline: short count 2, errno ETIMEDOUT; blocked 2.001 s
    for a 2 s deadline -- the second poll is given 2000 ms although 1999.000 ms remain (the rounding of
    `poll_timeout_rounding`: the microsecond difference is negative) -/
theorem run_stalled_client :
    ex_stalled_client.ret = 2 ∧ ex_stalled_client.errno = 110 ∧ ex_stalled_client.st.buf = [1, 2, 0, 0] ∧ ex_stalled_client.st.blocked = 2001000 ∧ ex_stalled_client.st.src = [3, 4, 5] := by decide

def ex_eintr_storm : Result :=
  run readN { n := 4, ws := 12, wu := 0, start := 10000000, data := [1, 2, 3, 4] }
            [.fail 1900000 4, .fail 1900000 4, .fail 1900000 4, .fail 1900000 4, .fail 1900000 4] [.xfer 4]

/-- an EINTR storm does not extend the deadline: signals 1.9 s apart, the call still ends 2.001 s after entry
    (after the first signal the timeout is recomputed: 100 ms) -/
theorem run_eintr_storm :
    ex_eintr_storm.ret = 0 ∧ ex_eintr_storm.errno = 110 ∧ ex_eintr_storm.st.blocked = 2001000 ∧ npolls ex_eintr_storm.st.trace = 2 := by decide

def ex_arrives_in_time : Result :=
  run readN { n := 4, ws := 12, wu := 0, start := 10000000, data := [1, 2, 3, 4] }
            [.ready 5 1, .fail 7 4, .ready 0 1, .ready 100 1, .ready 3 1] [.xfer 1, .fail 11, .xfer 2, .xfer 9]

/-- everything arrives in time, in three pieces with an EINTR and a spurious wake-up in between: complete count -/
theorem run_arrives_in_time :
    ex_arrives_in_time.ret = 4 ∧ ex_arrives_in_time.st.buf = [1, 2, 3, 4] ∧ ex_arrives_in_time.st.nleft = 0 ∧ Gen.Fd.callerClass ex_arrives_in_time.ret ex_arrives_in_time.errno 4 = 0 := by decide

def ex_iov_short_writes : Result :=
  run writeIov { chunks := [[1, 2], [3], [4, 5, 6]], skip := 1, ws := 12, wu := 0, start := 10000000 }
            [.ready 1 4, .ready 1 4, .ready 1 4] [.xfer 1, .fail 11, .xfer 3, .xfer 2]

/-- a 3-element iovec written in short writes of 1, 3 and 2 bytes with an EAGAIN in between -/
theorem run_iov_short_writes :
    ex_iov_short_writes.ret = 6 ∧ ex_iov_short_writes.st.sink = [1, 2, 3, 4, 5, 6] := by decide

def ex_backward_clock_step : Result :=
  run writeN { n := 1, ws := 12, wu := 0, start := 10000000, data := [7] }
            [.fail 1500000 4, .jump (-1000000)] []

/-- a backward clock step of 1 s extends the wait by that second (plus rounding) and no more: within the bound of `bounded_wait` -/
theorem run_backward_clock_step :
    ex_backward_clock_step.st.blocked = 3001000 ∧ slack 12000000 10000000 + credit [.fail 1500000 4, .jump (-1000000)] = 3003996 := by decide

/-- a hard error is -1 with the errno of the failing call; EOF is a short count without ETIMEDOUT -/
theorem run_hard_error_and_eof : (run readN { n := 4, ws := 12, wu := 0, start := 10000000, data := [1, 2, 3, 4] } [.ready 0 1] [.fail 104]).ret = -1 ∧
    (run readN { n := 4, ws := 12, wu := 0, start := 10000000, data := [1, 2, 3, 4] } [.ready 0 1] [.fail 104]).errno = 104 ∧
    (run readN { n := 4, ws := 12, wu := 0, start := 10000000, data := [1, 2] } [.ready 0 1, .ready 0 1] [.xfer 2, .xfer 0]).ret = 2 ∧
    (run readN { n := 4, ws := 12, wu := 0, start := 10000000, data := [1, 2] } [.ready 0 1, .ready 0 1] [.xfer 2, .xfer 0]).errno = 0 := by
  decide

end Munge.C08Fd
