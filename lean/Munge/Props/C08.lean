import Munge.Model.Cred
import Munge.Lemmas.CredDec
/-
C08 — no input can crash, corrupt, leak or wedge the daemon (PARTIAL: the bounds and state logic).

What is proved here is about the model's parsers, which test a bound exactly where the C tests one and
route every access through `byteAt` / `takeN` (an out-of-range access yields `PR.oob`).  Memory safety,
leak-freedom and liveness of the C itself are established by the sanitizers in the correspondence run on
the explored inputs; that the C has this check structure is what the byte-exact correspondence shows.
-/
namespace Munge.C08
open Munge.Cred Munge.Gen.Dec

def isOob {α : Type} : PR α → Bool
  | .oob => true
  | _ => false

/-- For EVERY byte string as the unarmored credential body, every message state and every primitive
    table, the outer-layer parser never reads outside the buffer (version, cipher, MAC and zip types,
    realm, IV and MAC — the MAC copy is bounded by the bytes that remain). -/
theorem unpackOuter_no_oob (P : Prims) (m : Msg) (buf : Bytes) : isOob (unpackOuter P m buf) = false := by
  have := PR.post_ne_oob (unpackOuter_spec P m buf)
  cases h : unpackOuter P m buf <;> simp_all [isOob]

/-- For EVERY byte string as the (decrypted, decompressed) inner layer — in particular validly MAC'd
    ones with a malformed interior: any truncation, any address length, any data length — the inner
    parser never reads outside it, and the payload it hands to the reply lies inside it. -/
theorem unpackInner_no_oob (m : Msg) (buf : Bytes) : isOob (unpackInner m buf) = false := by
  have := PR.post_ne_oob (unpackInner_spec m buf)
  cases h : unpackInner m buf <;> simp_all [isOob]

/-- the payload returned by a successful inner parse is a sub-range of the buffer of exactly `data_len` bytes -/
theorem unpackInner_payload_inside (m m' : Msg) (buf : Bytes) (h : unpackInner m buf = .ok m') :
    m'.data.length = m'.dataLen ∧ m'.dataLen ≤ buf.length := by
  have hp := PR.post_ok (unpackInner_spec m buf) h
  exact ⟨hp.data, hp.fits⟩

/-- Hence a whole decode never reads out of bounds, for every request, environment, cache state and
    primitive table. -/
theorem decode_no_oob (P : Prims) (cf : Conf) (env : Env) (rs : ReplaySet) (m : Msg) :
    (decProcess P cf env rs m).oob = false :=
  (decProcess_any P cf env rs m).oob

/-- The length limit is applied to the header alone: a request whose declared length exceeds the
    maximum is refused whatever follows it (nothing of the body is looked at, let alone buffered). -/
theorem refuse_before_buffering (hdr body1 body2 : Bytes) (h : hdr.length = 11)
    (hl : (rd32 ((hdr.drop 7).take 4) : Int) > MUNGE_MAXIMUM_REQ_LEN) :
    (∃ why, recvMsg (hdr ++ body1) = .drop why) ∧ recvMsg (hdr ++ body1) = recvMsg (hdr ++ body2) := by
  rw [recvMsg_too_long_append hdr body1 h hl, recvMsg_too_long_append hdr body2 h hl]
  exact ⟨⟨_, rfl⟩, rfl⟩

/-- A request that is not answered with success never changes the shared replay state, and a
    successful one adds exactly its own key: one hostile input cannot corrupt what later requests see. -/
theorem failed_request_leaves_state (P : Prims) (cf : Conf) (env : Env) (rs : ReplaySet) (m : Msg) :
    let o := decProcess P cf env rs m
    (o.rc ≠ 0 → o.replay = rs) ∧
    (o.rc = 0 → ∃ k, o.key = some k ∧ (o.replay = rs ∨ o.replay = k :: rs)) := by
  have := decProcess_any P cf env rs m
  refine ⟨fun h => (this.failed h).2, fun h => ?_⟩
  obtain ⟨k, hk, hr⟩ := this.ok h
  refine ⟨k, hk, ?_⟩
  split at hr
  · exact .inr hr
  · exact .inl hr

/-- Every transaction ends in exactly one of: a reply (a well-formed ENC_RSP / DEC_RSP header + body) or
    a closed connection; encode requests never touch the replay state.  (`hfit`: the reply body fits the
    32-bit length field — the primitives are unconstrained here, so a 4 GiB "MAC" must be excluded.) -/
theorem always_an_answer (P : Prims) (cf : Conf) (env : Env) (rs : ReplaySet) (req : Bytes) (sendOk : Bool)
    (hfit : ∀ b, (jobExec P cf env rs req sendOk).1 = some b → b.length < 4294967296 + 11) :
    let r := jobExec P cf env rs req sendOk
    (r.1 = none ∨ ∃ b, r.1 = some b ∧ 11 ≤ b.length ∧ b.take 5 = [0, 96, 109, 75, 4] ∧
        ((b.getD 5 0 = 3) ∨ (b.getD 5 0 = 5)) ∧ rd32 ((b.drop 7).take 4) = b.length - 11) ∧
    ((∃ m, recvMsg req = .enc m) → r.2 = rs) := by
  obtain ⟨h1, h2⟩ := jobExec_reply P cf env rs req sendOk
  refine ⟨h1.imp id fun ⟨t, retry, body, ht, hb⟩ => ?_, h2⟩
  have w := rsp_wellformed t retry body (hfit _ hb)
  refine ⟨_, hb, w.1, w.2.1, ?_, w.2.2.2⟩
  rw [w.2.2.1]
  rcases ht with rfl | rfl
  · exact .inl rfl
  · exact .inr rfl

/-! ### the check sites the model was written against -/

/-- The `m_msg_set_err` call sites of every stage function of dec.c and enc.c, in source order (code,
    message literal; "" = NULL), as they were when the hand-written parsers of `Munge/Model/Cred.lean`
    were written against them.  (Sites with code 5 / internal-failure texts are allocation or primitive
    failures the model does not exhibit.) -/
def sitesAsModelled : List (String × List (Int × String)) := [
  ("dec_validate_msg", [(1, "No credential specified in decode request")]),
  ("dec_timestamp", [(1, "Failed to query current time")]),
  ("dec_authenticate", [(1, "Failed to determine client identity")]),
  ("dec_check_retry", [(6, "Exceeded maximum number of decode attempts")]),
  ("dec_unarmor", [(2, "No credential specified"), (8, "Failed to match armor prefix"), (8, "Failed to match armor suffix"), (5, ""), (8, "Failed to base64-decode credential")]),
  ("dec_unpack_outer", [(8, "Truncated credential version"), (9, "Invalid credential version %d"), (8, "Truncated cipher type"), (10, "Invalid cipher type %d"), (1, "Failed to determine IV length for cipher type %d"), (8, "Truncated MAC type"), (11, "Invalid MAC type %d"), (1, "Failed to determine digest length for MAC type %d"), (11, "Invalid MAC type %d with cipher type %d"), (8, "Truncated compression type"), (12, "Invalid compression type %d"), (8, "Truncated security realm length"), (8, "Truncated security realm string"), (5, ""), (8, "Truncated cipher IV"), (8, "Truncated MAC")]),
  ("dec_decrypt", [(1, "Failed to determine DEK key length for MAC type %d"), (1, "Failed to compute DEK"), (1, "Failed to determine block size for cipher type %d"), (5, ""), (14, ""), (1, "Failed to decrypt credential")]),
  ("dec_validate_mac", [(14, ""), (1, "Failed to MAC credential")]),
  ("dec_decompress", [(5, ""), (14, ""), (1, "Failed to decompress credential")]),
  ("dec_unpack_inner", [(8, "Truncated salt"), (8, "Truncated origin IP addr length"), (8, "Truncated origin IP addr"), (8, "Invalid origin IP addr length"), (8, "Truncated encode time"), (8, "Truncated time-to-live"), (8, "Truncated UID"), (8, "Truncated GID"), (8, "Truncated UID restriction"), (8, "Truncated GID restriction"), (8, "Truncated data length"), (8, "Truncated data")]),
  ("dec_validate_auth", [(18, "Unauthorized credential for client UID=%u GID=%u")]),
  ("dec_validate_time", [(16, ""), (15, "")]),
  ("dec_validate_replay", [(17, ""), (5, ""), (1, "")]),
  ("enc_validate_msg", [(10, "Invalid cipher type %d"), (11, "Invalid MAC type %d"), (11, "Invalid MAC type %d with cipher type %d"), (12, "Invalid compression type %d")]),
  ("enc_init", [(1, "Failed to determine IV length for cipher type %d")]),
  ("enc_authenticate", [(1, "Failed to determine client identity")]),
  ("enc_check_retry", [(6, "Exceeded maximum number of encode attempts")]),
  ("enc_timestamp", [(1, "Failed to query current time")]),
  ("enc_pack_outer", [(5, "")]),
  ("enc_pack_inner", [(5, "")]),
  ("enc_compress", [(5, ""), (1, "Failed to compress credential")]),
  ("enc_mac", [(1, "Failed to determine digest length for MAC type %d"), (1, "Failed to MAC credential")]),
  ("enc_encrypt", [(1, "Failed to determine DEK key length for MAC type %d"), (1, "Failed to compute DEK"), (1, "Failed to determine block size for cipher type %d"), (5, ""), (1, "Failed to encrypt credential")]),
  ("enc_armor", [(5, ""), (1, "Failed to base64-encode credential")]),
  ("enc_fini", [])]

/-- The check sites of the C source are still exactly those: a bounds check or validation removed from,
    added to, reordered in or re-worded in dec.c / enc.c changes the generated list and breaks this. -/
theorem check_sites_as_modelled : errorSites = sitesAsModelled := rfl

/-! ### non-vacuity: the parsers do reach their deepest branches -/
example : isOob (unpackInner {} ((List.replicate 8 0) ++ [4, 127, 0, 0, 1] ++ be32 5 ++ be32 300 ++ be32 1 ++ be32 2 ++
    be32 4294967295 ++ be32 4294967295 ++ be32 2 ++ [104, 105])) = false := by decide

end Munge.C08
