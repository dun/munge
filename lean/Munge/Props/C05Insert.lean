import Munge.Gen.ReplayIns
import Munge.Lemmas.Kernel
/-
C05 / C07 (what the replay cache records): `replay_insert` as translated from replay.c
-/
namespace Munge.C05Insert
open Munge.C Munge.Gen.ReplayIns
open scoped Munge.Kernel

/-- **The replay record of a credential is its first 16 MAC bytes and the second it stops being valid**: with the cache in
    place, a record is allocated, given `t_expired = (time0 + ttl) mod 2^32` - the encode time plus the (already capped)
    lifetime, in the 32-bit arithmetic of the credential's fields - and 16 bytes copied from the credential's MAC, and then
    offered to the hash exactly once. -/
theorem record_is_mac_and_expiry (rh gb cp rp t0 ttl ei rhi : Int) (h : rh ≠ 0 ∧ cp ≠ 0 ∧ rp ≠ 0) :
    let o := replay_insert rh gb cp rp t0 ttl ei rhi
    o.get "r.data.t_expired" (-1) = (t0 + ttl) % 4294967296 ∧
    o.events.take 3 = [("replay_alloc", []), ("copy:r.data.mac<-c.mac", [16]), ("hash_insert", [])] ∧
    o.count "hash_insert" = 1 := by
  kcases replay_insert with [h.1, h.2.1, h.2.2] <;> simp [wrapU32]

/-- **Its three answers**: 0 = recorded (the hash took the record, which is NOT freed), 1 = a record with this key is already
    there (`EEXIST`; the new record is freed), -1 = failure (record freed); nothing else. -/
theorem insert_answers (rh gb cp rp t0 ttl ei rhi : Int) (h : rh ≠ 0 ∧ cp ≠ 0 ∧ rp ≠ 0) :
    let o := replay_insert rh gb cp rp t0 ttl ei rhi
    (rhi ≠ 0 → o.ret = 0 ∧ o.count "replay_free" = 0) ∧
    (rhi = 0 → ei = 17 → o.ret = 1 ∧ o.count "replay_free" = 1) ∧
    (rhi = 0 → ei ≠ 17 → o.ret = -1 ∧ o.count "replay_free" = 1) := by
  kcases replay_insert with [h.1, h.2.1, h.2.2] <;> simp [*]

/-- without a cache (benchmark mode) nothing is recorded and the caller is told "inserted"; without a cache otherwise, an error -/
theorem no_cache (gb cp rp t0 ttl ei rhi : Int) :
    (gb ≠ 0 → replay_insert 0 gb cp rp t0 ttl ei rhi = { ret := 0, writes := [], events := [] }) ∧
    (gb = 0 → (replay_insert 0 gb cp rp t0 ttl ei rhi).ret = -1 ∧ (replay_insert 0 gb cp rp t0 ttl ei rhi).events = []) := by
  kcases replay_insert <;> simp_all

/-- **The roll-back rebuilds exactly the key the insertion stored** (C13's "a reply that could not be delivered withdraws the
    record"): `replay_remove` looks up `(first 16 MAC bytes, (time0 + ttl) mod 2^32)` - the same expiry expression and the same
    16-byte copy from the credential's MAC as `replay_insert` - once, and frees the record exactly when one was found. -/
theorem remove_rebuilds_the_insert_key (rh gb cp rp t0 ttl ei rhi rhr : Int) (h : rh ≠ 0 ∧ cp ≠ 0 ∧ rp ≠ 0) :
    (replay_remove rh gb cp t0 ttl rhr).get "rnode.data.t_expired" (-1) = (replay_insert rh gb cp rp t0 ttl ei rhi).get "r.data.t_expired" (-2) ∧
    (replay_remove rh gb cp t0 ttl rhr).events.take 2 = [("copy:rnode.data.mac<-c.mac", [16]), ("hash_remove", [])] ∧
    ((replay_remove rh gb cp t0 ttl rhr).ret = if rhr ≠ 0 then 0 else -1) ∧
    ((replay_remove rh gb cp t0 ttl rhr).count "replay_free" = if rhr ≠ 0 then 1 else 0) := by
  kcases replay_insert with [h.1, h.2.1, h.2.2] <;> kcases replay_remove with [h.1, h.2.1] <;> simp [*]

example : (replay_insert 1 0 1 1 1000000 300 0 1).get "r.data.t_expired" (-1) = 1000300 := by decide
example : (replay_insert 1 0 1 1 4294967295 300 0 1).get "r.data.t_expired" (-1) = 299 := by decide

end Munge.C05Insert
