import Munge.Model.Cred
import Munge.Lemmas.ConfReads
import Munge.Lemmas.CredDec
import Munge.Lemmas.CredEnc
/-
C03 — credential identity is the kernel-attested identity of the requester.
In the model the peer identity (`Env.peer`, the result of SO_PEERCRED via `auth_recv`) is a parameter
distinct from the request bytes.  The theorems say that nothing in a request can set or influence the
UID/GID written into a credential or used for the authorisation decision.
-/
namespace Munge.C03
open Munge.Cred Munge.Gen.Dec

/-- Whatever bytes a client sends as an encode or decode request — any field of any well-formed or
    crafted message — the received message has no client/credential identity set: the wire format has no
    such field. -/
theorem request_carries_no_identity (req : Bytes) :
    (∀ m, recvMsg req = .enc m → m.clientUid = 0 ∧ m.clientGid = 0 ∧ m.credUid = 0 ∧ m.credGid = 0) ∧
    (∀ m, recvMsg req = .dec m → m.clientUid = 0 ∧ m.clientGid = 0 ∧ m.credUid = 0 ∧ m.credGid = 0) := by
  -- on every path `recvMsg` builds the message by a structure literal that names none of the four fields
  constructor <;> intro m h <;> unfold recvMsg recvHdrBody at h <;> dsimp only at h <;> revert h
  all_goals repeat' (first | (with_reducible apply Munge.C.ite_eq_elim <;> intro _) | split)
  all_goals (intro h; cases h; try exact ⟨rfl, rfl, rfl, rfl⟩)

/-- the offset at which the 32-bit UID and GID sit in the packed inner layer (salt, addr_len, addr,
    time0, ttl precede them) -/
def idOffset : Nat := MUNGE_CRED_SALT_LEN.toNat + 1 + 4 + 4 + 4

/-- The UID and GID packed into the credential are exactly the peer's, for EVERY request: the inner layer
    carries `be32 uid ‖ be32 gid` at the documented offset, whatever the request contains. -/
theorem cred_identity_is_peer (cf : Conf) (m : Msg) (salt : Bytes) (uid gid : Nat)
    (hs : salt.length = MUNGE_CRED_SALT_LEN.toNat) (ha : cf.addr.length ≥ 4) :
    ((packInner cf { m with clientUid := uid, clientGid := gid, addrLen := 4 } salt).drop idOffset).take 8 = be32 uid ++ be32 gid := by
  obtain ⟨pre, post, hl, e⟩ := packInner_uid_gid cf m salt hs ha
  rw [e, show idOffset = pre.length from hl.symm, List.drop_left]
  exact List.take_left' rfl

/-- `encProcess` packs the inner layer from the message whose client identity was just set from the
    peer: after a successful encode the message's client identity IS the peer's, independent of the request. -/
theorem encode_identity_from_peer (P : Prims) (cf : Conf) (env : Env) (m : Msg) (uid gid : Nat)
    (hp : env.peer = some (uid, gid)) (hok : (encProcess P cf env m).2 = 0) :
    (encProcess P cf env m).1.clientUid = uid ∧ (encProcess P cf env m).1.clientGid = gid := by
  obtain ⟨uid', gid', hp', _, _, he⟩ := encProcess_ok P cf env m hok
  rw [hp] at hp'
  cases hp'
  rw [he, B.encSuccess_eq]
  exact ⟨rfl, rfl⟩

/-- NON-INTERFERENCE.  Two requests that differ only in identity-looking fields of the message record
    (the fields a crafted request might hope to smuggle in) get THE SAME reply bytes — same credential,
    same error — under the same environment: the reply is a function of the peer, never of those fields. -/
theorem request_identity_fields_ignored (P : Prims) (cf : Conf) (env : Env) (m : Msg) (a b c d a' b' c' d' : Nat) :
    let r1 := encProcess P cf env { m with clientUid := a, clientGid := b, credUid := c, credGid := d }
    let r2 := encProcess P cf env { m with clientUid := a', clientGid := b', credUid := c', credGid := d' }
    encRsp r1.1 = encRsp r2.1 ∧ r1.2 = r2.2 := by
  intro r1 r2
  have h1 := encProcess_withId P cf env m a b c d
  have h2 := encProcess_withId P cf env m a' b' c' d'
  exact ⟨h1.1.trans h2.1.symm, h1.2.trans h2.2.symm⟩

/-- … while changing the peer changes the identity in the credential accordingly (and nothing else of
    the inner layer): the packed inner layers for two peers differ exactly in the 8 identity bytes. -/
theorem peer_determines_identity (cf : Conf) (m : Msg) (salt : Bytes) (u1 g1 u2 g2 : Nat)
    (hs : salt.length = MUNGE_CRED_SALT_LEN.toNat) (ha : cf.addr.length ≥ 4) :
    let i1 := packInner cf { m with clientUid := u1, clientGid := g1, addrLen := 4 } salt
    let i2 := packInner cf { m with clientUid := u2, clientGid := g2, addrLen := 4 } salt
    i1.take idOffset = i2.take idOffset ∧ i1.drop (idOffset + 8) = i2.drop (idOffset + 8) := by
  obtain ⟨pre, post, hl, e⟩ := packInner_uid_gid cf m salt hs ha
  intro i1 i2
  simp only [i1, i2, e, show idOffset = pre.length from hl.symm]
  constructor
  · rw [List.take_left, List.take_left]
  · rw [← List.drop_drop, ← List.drop_drop, List.drop_left, List.drop_left]
    exact (List.drop_left' (l₁ := be32 u1 ++ be32 g1) rfl).trans (List.drop_left' (l₁ := be32 u2 ++ be32 g2) rfl).symm

/-- Without an attested identity there is no credential: if the kernel query fails the encode fails. -/
theorem no_peer_no_credential (P : Prims) (cf : Conf) (env : Env) (m : Msg) (hp : env.peer = none) :
    (encProcess P cf env m).2 ≠ 0 := by
  rcases encProcess_spec P cf env m with ⟨_, he, _⟩ | ⟨_, _, hp', _⟩
  · rw [he]; exact (by decide : (-1 : Int) ≠ 0)
  · rw [hp] at hp'; cases hp'

/-- The identity used for the decode authorisation is the peer's as well: whatever the decode request
    contains, the message that reaches the authorisation stage has its client identity set from
    `env.peer`, and the verdict is the authorisation kernel's on exactly that identity. -/
theorem decode_authorises_peer (P : Prims) (cf : Conf) (env : Env) (rs : ReplaySet) (m0 m1 : Msg) (s1 : Scratch)
    (uid gid : Nat) (hp : env.peer = some (uid, gid)) (hf : decFront P env rs m0 = .inr (m1, s1)) :
    m1.clientUid = uid ∧ m1.clientGid = gid := by
  have h := decFront_spec P env rs m0
  rw [hf] at h
  obtain ⟨u, g, h⟩ := h
  have hp' := h.peer
  rw [hp] at hp'
  cases hp'
  exact ⟨by rw [h.frame], by rw [h.frame]⟩

/-- … and the middle stages (decrypt, MAC, decompress, unpack) never touch it. -/
theorem mid_preserves_client_identity (P : Prims) (cf : Conf) (rs : ReplaySet) (m m' : Msg) (s s' : Scratch)
    (h : decMid P cf rs m s = .inr (m', s')) : m'.clientUid = m.clientUid ∧ m'.clientGid = m.clientGid := by
  have hm := decMid_spec P cf rs m s
  rw [h] at hm
  exact ⟨by rw [hm.inner.frame], by rw [hm.inner.frame]⟩

/-- the verdict: UNAUTHORIZED exactly when the kernel refuses the peer identity -/
theorem tail_verdict_is_kernel_on_client (cf : Conf) (env : Env) (rs : ReplaySet) (m : Msg) (s : Scratch)
    (he : m.errorNum = 0) :
    ((dec_validate_auth m.authUid m.authGid m.clientUid m.clientGid (b2int cf.gotRootAuth)
        (fun u g => b2int (env.member u.toNat g.toNat))).ret < 0 ↔
      (decTail cf env rs m s).msg.errorNum = EMUNGE_CRED_UNAUTHORIZED.toNat) := by
  have h := decTail_spec cf env rs m s he
  constructor
  · intro ha
    rw [if_pos ha] at h
    obtain ⟨m', ho, _, h18⟩ := h
    rw [ho]
    exact h18
  · intro h18
    -- the other exits carry success or a soft code
    refine Decidable.by_contra fun ha => ?_
    rw [if_neg ha] at h
    have := h.code
    rw [h18] at this
    revert this
    decide

/-- The pipeline's source files consult exactly the configuration fields that the model's `Conf` carries (table regenerated
    from the source on every run): the theorems above, stated for every `cf`, cover every configuration switch that can
    influence the identity a credential carries.  A new `conf->…` dependence in enc.c / dec.c / cred.c / m_msg.c breaks this. -/
theorem conf_fields_as_modelled : Munge.Gen.Dec.confReads = Munge.Cred.confAsModelled :=
  Munge.Cred.conf_reads_as_modelled

end Munge.C03
