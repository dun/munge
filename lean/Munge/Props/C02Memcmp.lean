import Munge.Gen.Memcmp
/-!
# C02 (the MAC comparison itself): `crypto_memcmp` reports a difference exactly when the two strings differ

`crypto_memcmp` is a loop; tools/gen/g_memcmp.py checks its header on the AST (`for (i = 0, x = 0; i < n; i++)`, then
`return (x != 0)`) and translates the single statement of its body into `Gen.Memcmp.crypto_memcmp_step` (C types explicit: the
accumulator has `accBits` bits).  The model below runs that step over the byte pairs exactly as the loop does.
-/
namespace Munge.C02Memcmp
open Munge.C Munge.Gen.Memcmp

/-- the loop: the translated body, folded over the byte pairs from the current accumulator and index -/
def memcmpAcc : Int → Nat → List UInt8 → List UInt8 → Int
  | x, _, [], _ => x
  | x, _, _ :: _, [] => x
  | x, i, a :: as, b :: bs => memcmpAcc (crypto_memcmp_step i x a.toNat b.toNat).ret (i + 1) as bs

/-- `crypto_memcmp (a, b, n)` for two strings of `n` bytes: `x` starts at 0, the result is `x != 0` -/
def cryptoMemcmp (a b : List UInt8) : Int := if memcmpAcc 0 0 a b ≠ 0 then 1 else 0

theorem step_zero_iff (i : Int) (x : Int) (a b : UInt8) (hx : 0 ≤ x) :
    (crypto_memcmp_step i x a.toNat b.toNat).ret = 0 ↔ x = 0 ∧ a = b := by
  have hx0 : x.toNat = 0 ↔ x = 0 := by omega
  have hab : a.toNat ^^^ b.toNat = 0 ↔ a = b := by
    rw [← UInt8.toNat_xor, ← UInt8.xor_eq_zero_iff, ← UInt8.toNat_inj]; rfl
  unfold crypto_memcmp_step bor bxor
  simp only [Int.toNat_natCast, Int.ofNat_eq_natCast, Int.natCast_eq_zero, Nat.or_eq_zero_iff, hab, hx0]

theorem step_nonneg (i : Int) (x : Int) (a b : UInt8) : 0 ≤ (crypto_memcmp_step i x a.toNat b.toNat).ret := by
  unfold crypto_memcmp_step bor; exact Int.natCast_nonneg _

theorem acc_zero_iff (as bs : List UInt8) (h : as.length = bs.length) (x : Int) (i : Nat) (hx : 0 ≤ x) :
    memcmpAcc x i as bs = 0 ↔ x = 0 ∧ as = bs := by
  fun_induction memcmpAcc x i as bs with
  | case1 x _ bs => rw [List.eq_nil_of_length_eq_zero h.symm, and_iff_left rfl]
  | case2 => cases h
  | case3 x i a as b bs ih =>
    rw [ih (Nat.succ.inj h) (step_nonneg ..), step_zero_iff _ _ _ _ hx, List.cons.injEq, and_assoc]

/-- **The comparison used for the MAC reports "equal" exactly when every byte is equal**: for two strings of the same length
    (the caller passes `mac_len` for both), `crypto_memcmp` returns 0 ⇔ the strings are identical - no byte position is
    skipped, no bit of a difference is dropped by the accumulator.  (C02-m1, `x =` for `x |=`, and C02-r3m1, a word-wise loop
    with a 32-bit accumulator, both change the generated step or the loop header.) -/
theorem ct_compare_detects_every_difference (a b : List UInt8) (h : a.length = b.length) :
    cryptoMemcmp a b = 0 ↔ a = b := by
  rw [← (acc_zero_iff a b h 0 0 (Int.le_refl 0)).trans (and_iff_right rfl), cryptoMemcmp]
  by_cases hz : memcmpAcc 0 0 a b = 0 <;> simp [hz]

/-- the accumulator is a single byte wide and the step touches nothing but it -/
theorem step_is_pure (i x a b : Int) : (crypto_memcmp_step i x a b).writes = [] ∧ (crypto_memcmp_step i x a b).events = [] ∧ accBits = 8 := by
  unfold crypto_memcmp_step accBits; simp

example : cryptoMemcmp [1, 2, 3] [1, 2, 3] = 0 ∧ cryptoMemcmp [1, 2, 3] [1, 2, 131] = 1 ∧ cryptoMemcmp [0, 0, 0, 0, 16] [0, 0, 0, 0, 0] = 1 := by decide

end Munge.C02Memcmp
