import Munge.Lemmas.Work
/-
C12 — accepted work is done exactly once; "wait for backlog" returns only when idle; a graceful stop drains the
queue before any worker is cancelled; no interleaving deadlocks or loses a wake-up.

What is proved here are the properties (helper lemmas: `Munge/Lemmas/Work.lean`).  The model is the transition system of
`Munge/Model/Work.lean` (atomic steps = the mutex-protected sections of `src/munged/work.c`), for any number
`n ≥ 1` of workers, any number of items, and every interleaving (`Reachable` quantifies over all step sequences).
Everything below is about `genParams`, i.e. the wait/signal predicates, idle test, wait guard and event order that
`tools/gen/g_work.py` extracts from `work.c` and `job.c` on every run: an edit of those changes the statements.

Finding F3 (DESIGN §6): with `while (n_working != 0 && work_head != NULL)` in `work_wait`/`work_fini` the obligations
`waitPred_work_wait`, `waitPred_work_fini`, `waitPred_negates_signalPred` fail, and with them `wait_returns_idle`,
`drain` and `waiter_not_forgotten` (each re-derives the predicate facts it needs, so it fails itself); the theorems
that do not depend on the wait predicates (`exactly_once`, `no_lost_wakeup`, `progress`, …) still check.
-/
namespace Munge.C12
open Munge.Work Munge.Gen.Work

/-- discharges a specification of a generated predicate: case split on "queue non-empty", then arithmetic -/
macro "work_pred" : tactic =>
  `(tactic| (intro N n q hn; cases q <;>
      simp [genParams, waitPredWait, waitPredFini, signalPred, idleTest] <;> omega))

/-- builds `Sound True genParams` from scratch (so that a theorem using it fails itself when a generated predicate is
    not what it must be) -/
macro "gen_sound_tac" : tactic =>
  `(tactic| exact
      { recv := by intro N n q; simp [genParams, recvWaitPred]
        idle := by work_pred
        masked := by decide
        waitW := fun _ => by work_pred
        waitF := fun _ => by work_pred
        signal := fun _ => by work_pred
        finiWaits := fun _ => by decide })

/-- `work_wait` waits exactly while something is queued or in progress (`n_working` is never negative) -/
theorem waitPred_work_wait :
    ∀ (N n : Int) (q : Bool), 0 ≤ n → (waitPredWait N n q = true ↔ ¬ (n = 0 ∧ q = false)) := by
  work_pred

/-- the waiting phase of `work_fini` waits exactly while something is queued or in progress -/
theorem waitPred_work_fini :
    ∀ (N n : Int) (q : Bool), 0 ≤ n → (waitPredFini N n q = true ↔ ¬ (n = 0 ∧ q = false)) := by
  work_pred

/-- a worker signals `finished_work` whenever nothing is queued and nothing is in progress (what `drain` and
    `waiter_not_forgotten` need; additional signals would be harmless, the waiter re-tests its condition) -/
theorem signalPred_idle :
    ∀ (N n : Int) (q : Bool), 0 ≤ n → (n = 0 ∧ q = false) → signalPred N n q = true := by
  work_pred

/-- … and only then: the signal condition is exactly "idle" -/
theorem signalPred_exact :
    ∀ (N n : Int) (q : Bool), 0 ≤ n → (signalPred N n q = true ↔ (n = 0 ∧ q = false)) := by
  work_pred

/-- both wait loops wait for exactly the negation of the condition under which the signal is sent -/
theorem waitPred_negates_signalPred (N n : Int) (q : Bool) (hn : 0 ≤ n) :
    waitPredWait N n q = !signalPred N n q ∧ waitPredFini N n q = !signalPred N n q := by
  have h3 := signalPred_exact N n q hn
  exact ⟨eq_not_of_iff (waitPred_work_wait N n q hn) h3, eq_not_of_iff (waitPred_work_fini N n q hn) h3⟩

/-- a worker blocks on `received_work` exactly while the queue is empty -/
theorem recvWait_spec : RecvOk genParams := by
  intro N n q; simp [genParams, recvWaitPred]

/-- `work_queue` signals `received_work` whenever some worker is not busy -/
theorem idleTest_spec : ∀ (N n : Int) (q : Bool), 0 ≤ n → n < N → genParams.idle N n q = true := by
  work_pred

/-- the cancel-disable bracket: `work_func` is called only with cancellation disabled, and every iteration ends with
    cancellation enabled again (so the worker stays cancellable at `pthread_testcancel` / `pthread_cond_wait`) -/
theorem cancel_bracket :
    maskedOf execLoop = true ∧ endsEnabled execLoop = true := by
  decide

/-- atomicity certificate: in `_work_exec`, `work_queue`, `work_wait`, `work_fini` every access to the shared state and
    every condition wait happens with the mutex held, `work_func` / `pthread_cancel` / `pthread_join` with the mutex free;
    the worker loop starts and ends each iteration holding the mutex, the cleanup handler releases it, and the
    state-changing events of an iteration come in the order the model's `wrk` step executes them -/
theorem atomic_sections :
    lockScan false execPre = some true ∧ execPre.contains .cleanupPush = true ∧
    lockScan true execLoop = some true ∧
    lockScan true cleanupEvents = some false ∧
    lockScan false queueEvents = some false ∧ lockScan false waitEvents = some false ∧
    lockScan false finiEvents = some false ∧
    semanticOrder execLoop = [.waitRecv, .dequeue, .incWorking, .call, .decWorking, .signalFinished] ∧
    finiEvents = [.lock, .setFini, .waitFinished, .unlock, .cancel, .join] := by
  decide

/-- the stop path of `job_accept` is `work_fini (w, 1)`, and `work_fini (wp, 1)` does enter the wait loop -/
theorem graceful_stop_waits : jobStopDoWait = true ∧ finiWaits true = true := by
  decide

/-- the generated parameters satisfy the part of `Sound` that does not concern the wait/signal predicates -/
theorem gen_sound_base : Sound False genParams :=
  { recv := recvWait_spec, idle := idleTest_spec, masked := cancel_bracket.1,
    waitW := False.elim, waitF := False.elim, signal := False.elim, finiWaits := False.elim }

/-- run a list of actions from the initial state -/
def run (n : Nat) (as : List Act) : Option State :=
  as.foldlM (step genParams) (init n)

/-- In every reachable state (any `n ≥ 1`, any step sequence): the accepted items are pairwise distinct and are,
    as a multiset, exactly the queued ones plus the ones held by workers plus the finished ones (nothing is lost,
    nothing is duplicated); the dequeue log contains every held or finished item exactly once, i.e. each item is
    dequeued once, by one worker; a worker holding an item is the one that dequeued it; `n_working` counts the
    holders; and no worker ever calls `work_func (NULL)`. -/
theorem exactly_once {n : Nat} {s : State} (hr : Reachable genParams n s) :
    s.accepted.Nodup ∧
    s.accepted.Perm (s.queue ++ held s.w ++ s.done) ∧
    s.lost = [] ∧
    (s.taken.map Prod.snd).Nodup ∧
    (s.taken.map Prod.snd).Perm (held s.w ++ s.done) ∧
    (∀ (k i : Nat), s.w[k]? = some (WPc.working i) → (k, i) ∈ s.taken) ∧
    s.nWorking = (held s.w).length ∧
    (∀ k : Nat, s.w[k]? ≠ some WPc.crashed) := by
  have h := reachable_invA recvWait_spec hr
  obtain ⟨hl, hn, h1, h2, h3, h4⟩ := h.exactly_once cancel_bracket.1
  exact ⟨h1, h2, hl, h3, h4, h.own, hn, h.nocrash⟩

/-- Whenever `work_wait` returns, or the waiting phase of `work_fini (wp, 1)` is left — on the first test of the
    loop condition or after any (also spurious) wake-up — nothing is queued and nothing is in progress. -/
theorem wait_returns_idle {n : Nat} {s s' : State} {a : Act} (hr : Reachable genParams n s)
    (hs : step genParams s a = some s')
    (ha : a = .waitCall ∨ a = .fini true ∨ a = .mainWake)
    (hleft : ∀ b wk, s'.main ≠ .waitFin b wk) :
    s'.queue = [] ∧ s'.nWorking = 0 ∧ ∀ (k i : Nat), s'.w[k]? ≠ some (WPc.working i) := by
  have hA := reachable_invA recvWait_spec hr
  have hidle := leaves_wait_idle (P := genParams) (by work_pred) (by work_pred) graceful_stop_waits.2
    hA.nWorking_nonneg hs ha hleft
  have hA' := reachable_invA recvWait_spec (Reachable.step a hr hs)
  exact ⟨hidle.1, hidle.2, fun k i hk => by have := hA'.nWorking_pos hk; omega⟩

/-- `work_wait` with one item in progress blocks (the hypothesis of `wait_returns_idle` is not vacuous) and returns
    after the worker's signal -/
example :
    (run 1 [.enq 5, .sig 0, .wrk 0, .waitCall]).map (·.main) = some (.waitFin false false) ∧
    (run 1 [.enq 5, .sig 0, .wrk 0, .waitCall, .wrk 0, .mainWake]).map (fun s => (s.main, s.queue, s.nWorking)) =
      some (.accepting, [], 0) := by decide

/-- all hypotheses on the generated parameters, including the wait/signal predicates -/
theorem gen_sound : Sound True genParams := by
  gen_sound_tac

/-- Once `work_fini (wp, 1)` — the call `job_accept` makes on SIGTERM/SIGINT, see `graceful_stop_waits` — is at or past
    its first `pthread_cancel`, every accepted item has been finished: nothing is queued, nothing is in progress,
    nothing was lost to cancellation, and the finished items are exactly the accepted ones, each once.  (Nothing can
    be accepted after `got_fini` is set: the stopping thread is the accepting thread.) -/
theorem drain {n : Nat} (hn : 0 < n) {s : State} (hr : Reachable genParams n s)
    (hfini : s.finiArg = true) (hpast : s.main.postWait = true) :
    s.queue = [] ∧ s.nWorking = 0 ∧ (∀ (k i : Nat), s.w[k]? ≠ some (WPc.working i)) ∧ s.lost = [] ∧
    s.done.Perm s.accepted ∧ s.done.Nodup := by
  -- not `gen_sound`: rebuilt here, so that this statement fails by itself on a wrong predicate (F3 in the header)
  have hS : Sound True genParams := by gen_sound_tac
  obtain ⟨hA, hB⟩ := reachable_inv hn hS hr
  obtain ⟨hq, hw⟩ := hB.drained trivial hfini hpast
  obtain ⟨hl, hnw, hnd, hperm, -, -⟩ := hA.exactly_once cancel_bracket.1
  have hheld : held s.w = [] := List.eq_nil_of_length_eq_zero (by omega)
  rw [hq, hheld] at hperm
  exact ⟨hq, hw, held_eq_nil.mp hheld, hl, hperm.symm, hperm.nodup_iff.mp hnd⟩

/-- 2 workers, 3 items, graceful stop arriving while two items are in progress and one is queued: the stop
    waits, the workers drain the queue, all three items are done exactly once, all workers are cancelled -/
example :
    (run 2 [.enq 10, .sig 0, .enq 11, .sig 0, .enq 12, .sig 0, .wrk 0, .wrk 1, .fini true,
            .wrk 0, .wrk 1, .wrk 0, .mainWake, .cancelOne, .cancelOne, .wrk 0, .wrk 1, .join]).map
      (fun s => (s.main, s.queue, s.done, s.lost, s.w)) =
    some (.finished, [], [10, 11, 12], [], [.cancelled, .cancelled]) := by decide

/-- an immediate stop without waiting (`work_fini (wp, 0)`) leaves the queue untouched: `drain` really needs `do_wait` -/
example :
    (run 1 [.wrk 0, .enq 5, .sig 0, .fini false, .cancelOne, .wrk 0, .join]).map (fun s => (s.main, s.queue, s.done)) =
      some (.finished, [5], []) := by decide

/-- Whatever the argument of `work_fini`: no item held by a worker is lost to cancellation — when `work_fini` has
    returned every accepted item is either finished or still in the queue (never started). -/
theorem no_item_lost {n : Nat} (hn : 0 < n) {s : State} (hr : Reachable genParams n s) (hfin : s.main = .finished) :
    s.accepted.Perm (s.queue ++ s.done) ∧ s.lost = [] := by
  obtain ⟨hA, hB⟩ := reachable_inv hn gen_sound_base hr
  obtain ⟨hl, -, -, hperm, -, -⟩ := hA.exactly_once cancel_bracket.1
  have hheld : held s.w = [] := held_eq_nil.mpr fun k i hk => by
    cases hB.joined hfin _ (List.mem_of_getElem? hk)
  rw [hheld, List.append_nil] at hperm
  exact ⟨hperm, hl⟩

/-- Before the stop has left its wait: if the queue is non-empty then the acceptor is about to signal, or some
    worker will run without needing a spurious wake-up (it has not blocked yet, a signal was delivered to it, or it
    is in `work_func`).  Does not depend on the wait/signal predicates of `work_wait`/`work_fini`. -/
theorem no_lost_wakeup {n : Nat} (hn : 0 < n) {s : State} (hr : Reachable genParams n s)
    (hpre : s.main.postWait = false) (hq : s.queue ≠ []) :
    s.main = .signalling ∨ ∃ (k : Nat) (pc : WPc), s.w[k]? = some pc ∧ pc.runnable = true :=
  (reachable_inv hn gen_sound_base hr).2.wakeup hpre hq

/-- A thread blocked in `work_wait` / `work_fini` to which no signal has been delivered is not waiting in vain:
    something is still queued or in progress (so, by `progress`, a worker will get to send the signal). -/
theorem waiter_not_forgotten {n : Nat} (hn : 0 < n) {s : State} (hr : Reachable genParams n s) {b : Bool}
    (hw : s.main = .waitFin b false) : ¬ (s.nWorking = 0 ∧ s.queue = []) := by
  have hS : Sound True genParams := by gen_sound_tac
  exact (reachable_inv hn hS hr).2.waiting trivial b hw

/-- Deadlock freedom with a measure: before the stop has left its wait, while work remains (queued or in progress)
    the acceptor is about to signal or some runnable worker has an enabled step that strictly decreases
    `2 * queue.length + nWorking`. -/
theorem progress {n : Nat} (hn : 0 < n) {s : State} (hr : Reachable genParams n s)
    (hpre : s.main.postWait = false) (hwork : s.queue ≠ [] ∨ s.nWorking ≠ 0) :
    s.main = .signalling ∨
    ∃ (k : Nat) (pc : WPc) (s' : State), s.w[k]? = some pc ∧ pc.runnable = true ∧
      step genParams s (.wrk k) = some s' ∧ measure s' < measure s := by
  obtain ⟨hA, hB⟩ := reachable_inv hn gen_sound_base hr
  by_cases hnw : s.nWorking = 0
  · have hq : s.queue ≠ [] := hwork.resolve_right (not_not_intro hnw)
    rcases hB.wakeup hpre hq with h | ⟨k, pc, hk, hrun⟩
    · exact .inl h
    · obtain ⟨s', h1, h2⟩ := wrk_productive recvWait_spec hpre hk hrun (.inr hq)
      exact .inr ⟨k, pc, s', hk, hrun, h1, h2⟩
  · obtain ⟨k, i, hk⟩ := hA.exists_working cancel_bracket.1 (by have := hA.nWorking_nonneg; omega)
    obtain ⟨s', h1, h2⟩ := wrk_productive recvWait_spec hpre hk rfl (.inl rfl)
    exact .inr ⟨k, _, s', hk, rfl, h1, h2⟩

/-- `2 * queue.length + nWorking` is a variant of the worker steps: every worker step strictly decreases it, or
    changes neither the queue, nor `nWorking`, nor the finished items (a fruitless wake-up, or the worker exiting). -/
theorem worker_variant {s s' : State} {k : Nat} (hs : step genParams s (.wrk k) = some s') :
    measure s' < measure s ∨ (s'.queue = s.queue ∧ s'.nWorking = s.nWorking ∧ s'.done = s.done) :=
  wrkStep_var recvWait_spec hs

/-- The stop itself does not hang: while `work_fini` is joining, either all workers have exited (the join completes)
    or some worker that has not exited has an enabled step. -/
theorem stop_not_stuck {n : Nat} {s : State} (hr : Reachable genParams n s) (hj : s.main = .joining) :
    (∃ s', step genParams s .join = some s') ∨
    ∃ (k : Nat) (s' : State), s.w[k]? ≠ some WPc.cancelled ∧ step genParams s (.wrk k) = some s' := by
  have hA := reachable_invA recvWait_spec hr
  by_cases hall : s.w.all (· == .cancelled) = true
  · exact .inl ⟨_, if_pos ⟨hj, hall⟩⟩
  · simp only [List.all_eq_true, beq_iff_eq, Classical.not_forall] at hall
    obtain ⟨pc, hpc, hne⟩ := hall
    obtain ⟨k, hk⟩ := List.mem_iff_getElem?.mp hpc
    obtain ⟨s', hs'⟩ := wrkStep_enabled (P := genParams) hk hne (fun e => hA.nocrash k (e ▸ hk))
    exact .inr ⟨k, s', by rw [hk]; simpa using hne, hs'⟩

end Munge.C12
