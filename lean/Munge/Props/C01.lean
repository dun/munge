import Munge.Model.Cred
import Munge.Model.PrimLaws
import Munge.Lemmas.CredRound
/-
C01 — encode then decode returns the identical payload, identity and options.
Theorems about the credential model (`Munge/Model/Cred.lean`): generic in the primitives (`Prims`)
under the structural laws `PrimLaws` (proved for the toy instance in Lemmas/ToyLaws.lean, validated on
OpenSSL/zlib/bzlib by the real-primitive harness).
-/
namespace Munge.C01
open Munge.Cred Munge.Cred.B Munge.Gen.Dec Munge.C

/-- a well-formed encode request as `m_msg_recv` delivers it: lengths agree with the byte strings, all
    integers in their C ranges -/
structure ReqOk (m : Msg) : Prop where
  type_enc : m.type = 2
  noerr : m.errorNum = 0
  cipher : m.cipher < 256
  mac : m.mac < 256
  zip : m.zip < 256
  realm : m.realm.length = m.realmLen ∧ m.realmLen < 255
  ttl : m.ttl < 4294967296
  auth : m.authUid < 4294967296 ∧ m.authGid < 4294967296
  data : m.data.length = m.dataLen ∧ m.dataLen ≤ 1048576     -- what the MUNGE_MAXIMUM_REQ_LEN gate of m_msg_recv guarantees
  retry : m.retry ≤ 5

/-- the daemon's configuration is sane: defaults name valid algorithms, TTLs in range, 4-byte address -/
structure ConfOk (P : Prims) (cf : Conf) : Prop where
  defCipher : cf.defCipher = 0 ∨ P.cipherValid cf.defCipher = true
  defMac : P.macValid cf.defMac = true
  defZip : cf.defZip = 0 ∨ P.zipValid cf.defZip = true
  small : cf.defCipher < 256 ∧ cf.defMac < 256 ∧ cf.defZip < 256
  ttl : 1 ≤ cf.defTtl ∧ cf.defTtl ≤ MUNGE_MAXIMUM_TTL ∧ 1 ≤ cf.maxTtl ∧ cf.maxTtl ≤ MUNGE_MAXIMUM_TTL
  addr : cf.addr.length = 4

/-- the decode request that carries exactly the credential an encode returned -/
def decReqOf (enc : Msg) : Msg := { type := 4, retry := 0, dataLen := enc.dataLen, data := enc.data }

/-- Options are resolved as the statement says: DEFAULT selects the daemon default; an empty payload
    disables compression; TTL 0 selects the default and anything above the maximum is clamped; and
    compression is REPORTED as none exactly when it was requested/defaulted off, the payload was empty, or
    the compressed inner layer would not be shorter. -/
theorem encode_resolution (P : Prims) (L : PrimLaws P) (cf : Conf) (hcf : ConfOk P cf) (env : Env) (m : Msg)
    (hm : ReqOk m) (hok : (encProcess P cf env m).2 = 0) :
    let e := (encProcess P cf env m).1
    e.cipher = (if m.cipher = 1 then cf.defCipher else m.cipher) ∧
    e.mac = (if m.mac = 1 then cf.defMac else m.mac) ∧
    (e.zip = 0 ∨ e.zip = (if m.zip = 1 then cf.defZip else m.zip)) ∧
    (m.dataLen = 0 → e.zip = 0) ∧
    (e.ttl : Int) = (if m.ttl = 0 then cf.defTtl else if (m.ttl : Int) > cf.maxTtl then cf.maxTtl else m.ttl) := by
  -- neither is needed: the options are resolved by `enc_validate_msg` alone
  have _ := L
  have _ := hm
  obtain ⟨uid, gid, _, hv, _, he⟩ := encProcess_ok P cf env m hok
  obtain ⟨v1, v2, v3, v4, _⟩ := encValidate_ok P cf m hv hcf.small
  obtain ⟨t1, t2, t3, t4⟩ := hcf.ttl
  unfold MUNGE_MAXIMUM_TTL at t2 t4
  intro e
  have hE : e = _ := he.trans (encSuccess_eq P cf env _ uid gid)
  have hzz : e.zip = 0 ∨ e.zip = (applyWrites m (encValidate P cf m) "m.").zip := by
    rw [hE]
    exact encZip_cases P cf env _ uid gid
  rw [v3] at hzz
  refine ⟨by rw [hE]; exact v1, by rw [hE]; exact v2, ?_, fun h0 => ?_, ?_⟩
  · by_cases h0 : m.dataLen = 0
    · rw [if_pos h0] at hzz; exact .inl (hzz.elim id id)
    · rw [if_neg h0] at hzz; exact hzz
  · rw [if_pos h0] at hzz
    exact hzz.elim id id
  · rw [hE]; show ((applyWrites m (encValidate P cf m) "m.").ttl : Int) = _
    rw [v4, wrapU32_id (by omega) (by omega), wrapU32_id (by omega) (by omega)]

/-- ROUND TRIP.  For every primitive table satisfying `PrimLaws`, every sane configuration, every
    well-formed request (any payload, cipher, MAC, zip, TTL, restriction), every salt/IV, every encoder
    identity and encode time: if encode succeeds, then a decode of exactly that credential — by an
    authorised client, inside the validity window (no 32-bit wrap), not seen before by this daemon —
    succeeds and returns the byte-identical payload and length, the encoder's UID and GID, the
    restrictions, the resolved cipher/MAC/zip, the TTL capped by the decoder's maximum, the encode time
    and the origin address. -/
theorem roundtrip (P : Prims) (L : PrimLaws P) (cf : Conf) (hcf : ConfOk P cf) (envE envD : Env)
    (rs : ReplaySet) (m : Msg) (hm : ReqOk m)
    (uid gid : Nat) (hpe : envE.peer = some (uid, gid)) (hid : uid < 4294967296 ∧ gid < 4294967296)
    (hnowE : 0 ≤ envE.now ∧ envE.now < 4294967296)
    (hok : (encProcess P cf envE m).2 = 0)
    (duid dgid : Nat) (hpd : envD.peer = some (duid, dgid)) (hdid : duid < 4294967296 ∧ dgid < 4294967296)
    (hnowD : 0 ≤ envD.now ∧ envD.now < 4294967296)
    (hauth : let e := (encProcess P cf envE m).1
             (e.authUid = UID_ANY ∨ e.authUid = duid ∨ (cf.gotRootAuth = true ∧ duid = 0)) ∧
             (e.authGid = GID_ANY ∨ e.authGid = dgid ∨ envD.member duid e.authGid = true))
    (hwin : let e := (encProcess P cf envE m).1
            let ttl' : Int := if (e.ttl : Int) > cf.maxTtl then cf.maxTtl else e.ttl
            let sk : Int := if cf.gotClockSkew then ttl' else 1
            sk ≤ envE.now ∧ envE.now + ttl' < 4294967296 ∧ envE.now - sk ≤ envD.now ∧ envD.now ≤ envE.now + ttl')
    (hfresh : ∀ k, (decProcess P cf envD [] (decReqOf (encProcess P cf envE m).1)).key = some k → k ∉ rs) :
    let e := (encProcess P cf envE m).1
    let o := decProcess P cf envD rs (decReqOf e)
    o.rc = 0 ∧ o.msg.errorNum = 0 ∧
    o.msg.data = m.data ∧ o.msg.dataLen = m.dataLen ∧
    o.msg.credUid = uid ∧ o.msg.credGid = gid ∧
    o.msg.authUid = m.authUid ∧ o.msg.authGid = m.authGid ∧
    o.msg.cipher = e.cipher ∧ o.msg.mac = e.mac ∧ o.msg.zip = e.zip ∧
    (o.msg.ttl : Int) = (if (e.ttl : Int) > cf.maxTtl then cf.maxTtl else e.ttl) ∧
    (o.msg.time0 : Int) = envE.now ∧ (o.msg.time1 : Int) = envD.now ∧
    o.msg.addrLen = 4 ∧ o.msg.addr = cf.addr := by
  obtain ⟨uid', gid', hp', hv, _, he⟩ := encProcess_ok P cf envE m hok
  rw [hpe] at hp'
  cases hp'
  obtain ⟨_, _, t3, t4⟩ := hcf.ttl
  have hE := he.trans (encSuccess_eq P cf envE _ uid gid)
  have hWF := encF_WF P L cf envE m uid gid hv hcf.defCipher hcf.defMac hcf.defZip hcf.small hm.cipher hm.mac hm.zip
    hm.realm.2 hm.ttl hm.auth hid (by rw [hm.data.1]; exact hm.data.2) hcf.addr
  have hwE := wrapU32_range envE.now
  have ht0 : (((wrapU32 envE.now).toNat : Nat) : Int) = envE.now := by
    rw [Int.toNat_of_nonneg (by omega), wrapU32_id hnowE.1 hnowE.2]
  have hwD := wrapU32_id hnowD.1 hnowD.2
  rw [hE] at hauth hwin hfresh ⊢
  rw [← ht0] at hwin
  have h1 := decode_emit P L cf envD rs _ hWF duid dgid hpd hdid ⟨t3, t4⟩ hnowD hauth hwin
    _ [0] (by decide)
    (by show (encCred P cf envE _ uid gid).take (encCred P cf envE _ uid gid).length = _
        rw [List.take_length]
        exact encCred_spec P cf envE _ uid gid hm.data.1 hm.realm.1 hcf.addr)
    (by show (0 : Nat) ≤ 5; omega) rfl hfresh
  intro e o
  rw [show o = _ from h1]
  refine ⟨rfl, rfl, rfl, hm.data.1, rfl, rfl, rfl, rfl, rfl, rfl, rfl, ?_, ?_, ?_, ?_, ?_⟩
  · exact capT_cast cf _ (by omega)
  · exact ht0
  · show (((wrapU32 envD.now).toNat : Nat) : Int) = _
    rw [Int.toNat_of_nonneg (by omega), hwD]
  · show (cf.addr.take 4).length = 4
    rw [List.length_take, hcf.addr]; rfl
  · show (if (cf.addr.take 4).length = 4 then cf.addr.take 4 else [0, 0, 0, 0]) = cf.addr
    rw [List.take_of_length_le (by rw [hcf.addr]; omega), if_pos hcf.addr]

/-- the size gate: a request or credential whose packed length exceeds MUNGE_MAXIMUM_REQ_LEN is refused
    with no data-bearing reply at all (never a truncated payload) -/
theorem length_gate (P : Prims) (cf : Conf) (env : Env) (rs : ReplaySet) (req : Bytes) (sendOk : Bool)
    (h : req.length ≥ 11) (hl : (rd32 ((req.drop 7).take 4) : Int) > MUNGE_MAXIMUM_REQ_LEN) :
    jobExec P cf env rs req sendOk = (none, rs) := by
  unfold jobExec
  rw [recvMsg_too_long req h hl]

end Munge.C01
