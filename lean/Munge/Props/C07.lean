import Munge.Lemmas.Replay
/-
C07 — the replay memory lasts as long as the credential could still be valid, and no longer
than one purge period beyond.

Regenerated from the sources on every run (`Munge.Gen.Hash`): the purge predicate `replay_is_expired`
(kernel; its comparison against `now` is what `purge_exact` pins down), the selection test of
`hash_delete_if`, the expiry expression `t_expired = (time_t) (time0 + ttl)` of
`replay_insert`, the kernel `dec_validate_time` (ttl cap before the window test; inclusive upper
bound), `MUNGE_REPLAY_PURGE_SECS` and the fact that `replay_purge` re-arms itself with it.

Histories are lists of events `req r | tick δ | purge` (`Munge.Replay.Ev`); the clock only
moves forward (`δ : Nat`).  The roll-back decision `rb` of a request whose reply cannot be sent
is a parameter, as in C05: the theorems need it to be sound (`RollbackSound`, the obligation
`C05.rollback_implies_inserted` on the source) or, failing that, that no request about the
credential in question loses its reply in the history considered (`repliesDelivered`).
-/
namespace Munge.C07
open Munge.C Munge.Hash Munge.Replay Munge.Gen.Hash

/-- `replay_purge` at clock `now` removes exactly the entries with `t_expired < now` — strictly —
    and keeps all others, in their order; the count it reports is the number removed. -/
theorem purge_exact (st : State) (now : Int) :
    (purge st now).1.items = st.items.filter (fun k => !decide (k.exp < now)) ∧
    (∀ k, (purge st now).1.has k ↔ st.has k ∧ ¬ k.exp < now) ∧
    (purge st now).2 = st.items.length - (purge st now).1.items.length := by
  refine ⟨items_purge st now, has_purge st now, ?_⟩
  unfold purge State.items
  cases h : st.table with
  | none => simp
  | some t => simp [deleteIf, Table.count_eq]

/-- The purge timer is re-armed by `replay_purge` itself with the period `MUNGE_REPLAY_PURGE_SECS`
    (read from the call in the source), which is 60 s. -/
theorem purge_period : purgeRearmMsecs = PURGE_SECS * 1000 ∧ PURGE_SECS = 60 := by decide

/-- The expiry stored with an entry is the last second at which the time check still accepts the
    credential: a request that passes `dec_validate_time` at clock `now` (within `uint32` range) has
    `now ≤ t_expired`.  (`ttl` is capped by the decoding daemon's `max_ttl` before both.) -/
theorem valid_implies_not_expired (cfg : Cfg) (hv : cfg.Valid) (now : Int) (hnow : 0 ≤ now ∧ now < 4294967296)
    (r : Req) (h : timeOk cfg now r) : now ≤ (keyOf cfg r).exp ∧ (keyOf cfg r).exp = wrapU32 (r.time0 + capTtl cfg r.ttl) :=
  ⟨timeOk_le_exp cfg hv hnow.1 hnow.2 r h, rfl⟩

/-- KEPT WHILE VALID.  Let request `ri` be answered SUCCESS with the reply delivered, on any
    daemon state.  After any further history `mid` (requests, clock advances, any number of purge
    ticks at any positions), if a request `rj` for the same credential still passes the time check
    at that point — i.e. up to and including the last valid second — then the entry is still in
    the table and `rj` is reported REPLAYED, never SUCCESS (the documented retry exception apart).
    Needs: the roll-back decision is sound, or no request for this credential in `mid` loses its reply. -/
theorem kept_while_valid (rb : RollbackPred) (cfg : Cfg) (hv : cfg.Valid) (d : Daemon) (hok : d.Ok)
    (ri rj : Req) (mid : List Ev)
    (hrb : RollbackSound rb ∨ repliesDelivered cfg (keyOf cfg ri) mid)
    (hkey : keyOf cfg rj = keyOf cfg ri)
    (hsucc : (attempt rb cfg d ri).2.code = EMUNGE_SUCCESS ∧ (attempt rb cfg d ri).2.delivered = true)
    (hrange : 0 ≤ (run rb cfg (attempt rb cfg d ri).1 mid).1.now ∧ (run rb cfg (attempt rb cfg d ri).1 mid).1.now < 4294967296)
    (htime : timeOk cfg (run rb cfg (attempt rb cfg d ri).1 mid).1.now rj) :
    (run rb cfg (attempt rb cfg d ri).1 mid).1.replay.has (keyOf cfg ri) ∧
    ((attempt rb cfg (run rb cfg (attempt rb cfg d ri).1 mid).1 rj).2.code = EMUNGE_SUCCESS → Exempt cfg rj.retry) ∧
    (rj.preErr = 0 → rj.authOk = true → ¬ Exempt cfg rj.retry →
      (attempt rb cfg (run rb cfg (attempt rb cfg d ri).1 mid).1 rj).2.code = EMUNGE_CRED_REPLAYED) := by
  -- the clock at the end is ≤ the expiry, hence so it was at every purge tick
  have hle := hkey ▸ timeOk_le_exp cfg hv hrange.1 hrange.2 rj htime
  have h := replayed_after rb hv hok hrb hkey (success_has rb hv hok hsucc)
    (attempt_now rb cfg d ri ▸ keptBy_of_final_le rb cfg _ mid _ hle)
  exact ⟨h.1, h.2.1, fun h1 h2 => h.2.2 ⟨h1, h2, htime⟩⟩

/-- DISCARDED AFTER EXPIRY.  Right after a purge tick at clock `p` no entry with `t_expired < p`
    remains.  Consequently, in any history (from a state whose entries all have `t_expired ≥ lo`,
    e.g. the empty table), every entry present at the end has `t_expired ≥` the clock value of the
    last purge tick; so if that tick was at most `P` seconds ago (the timer recurs every
    `MUNGE_REPLAY_PURGE_SECS`, C18), every entry has `t_expired ≥ now − P`. -/
theorem discarded_after (rb : RollbackPred) (cfg : Cfg) (hv : cfg.Valid) (d : Daemon) (hok : d.Ok) (evs : List Ev)
    (lo : Int) (hlo : lo ≤ d.now) (h0 : ∀ k, d.replay.has k → lo ≤ k.exp)
    (hrange : 0 ≤ d.now ∧ (run rb cfg d evs).1.now < 4294967296) :
    (∀ p k, (purge d.replay p).1.has k → p ≤ k.exp) ∧
    (∀ k, (run rb cfg d evs).1.replay.has k → lastPurge lo d.now evs ≤ k.exp) ∧
    (∀ (P : Int) k, (run rb cfg d evs).1.now - lastPurge lo d.now evs ≤ P → (run rb cfg d evs).1.replay.has k →
      (run rb cfg d evs).1.now - P ≤ k.exp) := by
  have h := run_discards rb cfg hv evs d lo hok hrange.1 hrange.2 hlo h0
  refine ⟨fun p k hk => ?_, h, fun P k hP hk => ?_⟩
  · have := ((has_purge _ _ _).1 hk).2; omega
  · have := h k hk; omega

/-- SIZE BOUND.  Start from an empty table.  Every entry present at the end of a history was put
    there by a request that passed the time check at some clock value `t` of that history, and (for
    requests whose window does not wrap around 0 or 2^32) with `now − P ≤ t_expired` as above:
    `t ≥ now − P − ttl' − skew` in general (`skew = ttl'` with clock skew allowed, else 1: a
    credential dated up to `skew` ahead of the decoding clock is remembered that much longer), and
    `t ≥ now − P − ttl'` when the credential was not dated ahead of the decoding clock
    (`time0 ≤ t`).  With `ttl' ≤ max_ttl`: the table holds nothing but credentials decoded during
    the last `max_ttl` (resp. `2·max_ttl`) seconds plus one purge period. -/
theorem size_bound (rb : RollbackPred) (cfg : Cfg) (hv : cfg.Valid) (d : Daemon) (hok : d.Ok) (evs : List Ev)
    (hempty : ∀ k, ¬ d.replay.has k) (hrange : 0 ≤ d.now ∧ (run rb cfg d evs).1.now < 4294967296)
    (P : Int) (hP : (run rb cfg d evs).1.now - lastPurge d.now d.now evs ≤ P) :
    ∀ k, (run rb cfg d evs).1.replay.has k →
      ∃ r t, keyOf cfg r = k ∧ d.now ≤ t ∧ t ≤ (run rb cfg d evs).1.now ∧ passes cfg t r ∧
        (r.NoWrap cfg →
          (run rb cfg d evs).1.now - P - capTtl cfg r.ttl - skewOf cfg r.ttl ≤ t ∧
          (r.time0 ≤ t → (run rb cfg d evs).1.now - P - capTtl cfg r.ttl ≤ t) ∧
          capTtl cfg r.ttl ≤ cfg.max_ttl) := by
  intro k hk
  have hdis := (discarded_after rb cfg hv d hok evs d.now (Int.le_refl _) (fun k hk => absurd hk (hempty k)) hrange).2.2 P k hP hk
  have hprov := run_provenance rb cfg hv
    (fun now k => ∃ r t, keyOf cfg r = k ∧ d.now ≤ t ∧ t ≤ now ∧ passes cfg t r)
    (fun k t t' htt' ⟨r, t0, h1, h2, h3, h4⟩ => ⟨r, t0, h1, h2, Int.le_trans h3 htt', h4⟩)
    evs d hok (fun k hk => absurd hk (hempty k))
    (fun r t ht1 _ hp => ⟨r, t, rfl, ht1, Int.le_refl _, hp⟩) k hk
  obtain ⟨r, t, hkey, ht1, ht2, hp⟩ := hprov
  refine ⟨r, t, hkey, ht1, ht2, hp, fun hnw => ?_⟩
  have hw := accepted_window cfg hv t ⟨by omega, by omega⟩ r hnw hp.2.2
  rw [hkey] at hw
  exact ⟨by omega, fun h => by omega, capTtl_le cfg r.ttl⟩

/-- a credential encoded at 1000 with ttl 300, decoded at 1000; a purge tick exactly at its last
    valid second (1300) keeps it and a second presentation at 1300 is REPLAYED; a purge tick one
    second later removes it, and the time check then rejects the credential as EXPIRED -/
example :
    let r : Req := ⟨[1, 2, 3, 4, 5, 6, 7, 8, 9, 10, 11, 12, 13, 14, 15, 16], 1000, 300, 0, 0, true, true⟩
    ((run genRollback {} ⟨initSized 3 {}, 1000⟩
        [.req r, .tick 300, .purge, .req r, .tick 1, .purge, .req r]).2.map (fun o => o.map (·.code))) =
      [some 0, none, none, some 17, none, none, some 15] := by
  decide +kernel

end Munge.C07
