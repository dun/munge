import Munge.Lemmas.WireCred
/-
WireCred — the credential model's wire handling is an instance of the generated-descriptor interpreters.

`Munge.Model.Cred` parses requests (`recvMsg`) and packs replies (`hdrBytes`, `errWire`, `encRsp`, `decRsp`) by
hand; `Munge.Model.Wire` interprets the field-descriptor lists that tools/gen/g_wire.py regenerates from
`src/libcommon/m_msg.c` on every run (`Munge.Gen.Wire`: `unpackTable`, `packTable`, `lengthTable`, the header
constants, the `m_msg_recv` chain and its gate).  Each model is diffed against the C; the theorems below tie
the two models to each other, so a change of the C's field lists that the generator picks up but the
hand-written parser does not (or vice versa) breaks this file.

Vocabulary (definitions in `Munge/Lemmas/WireCred.lean`):
* `reqOf : Wire.Msg → Cred.Msg` — the credential model's view of a received `struct m_msg`;
  `wireOf : Cred.Msg → Wire.Msg` — the `struct m_msg` a credential-model message stands for
  (`error_len = (strlen + 1) mod 256` or 0, `error_str` = text ‖ NUL or NULL, exactly as `m_msg_set_err`).
* `wireHdr mok req`        = `_msg_unpack (m, MUNGE_MSG_HDR, hdr, 11)` on a fresh message (first 11 bytes);
  `wireBody mok req`       = the `pkt_len` bytes after the header;
  `HdrPass mok req`        = complete header ∧ header unpack succeeds ∧ length gate passed ∧ complete body;
  `wireBodyUnpack mok req` = `_msg_unpack (m, m->type, m->pkt, m->pkt_len)` as `m_msg_recv` calls it.
* `mok : Nat → Bool` is "does `malloc (n)` succeed"; the credential model has no allocation failure, so the
  theorems that reach an `_alloc` assume `∀ n, mok n = true`.
* lengths travel as C `int`: `cInt`; a `data_len ≥ 2^31` leaves the Wire chain through `nomem` (return code 5),
  a `realm_len`/`data_len` beyond the packet through `err` (return code 1); the credential model drops the
  connection in both cases ("unpack").  Bytes after the last field are ignored by both.
-/
namespace Munge.WireCred
open Munge.Wire Munge.Gen.Wire Munge.C

/-! ### (a) the header -/

/-- `Cred.recvMsg`'s verdict on the 11-byte header agrees with `m_msg_recv`'s header steps on the generated
    data: a short read drops; `_msg_unpack` of the generated header list (with its post-switch magic / version
    checks) succeeds exactly when the model accepts magic and version, and then holds the model's type, retry
    and length; the generated length gate against `MUNGE_MAXIMUM_REQ_LEN` is the model's "length" test; a
    short body is the model's "incomplete body"; a type other than ENC_REQ / DEC_REQ / HDR is dropped. -/
theorem recvMsg_header_is_wire (mok : Nat → Bool) (req : Bytes) :
    ((req.take recvHdrLen).length ≠ recvHdrLen → Cred.recvMsg req = .drop "incomplete header") ∧
    ((req.take recvHdrLen).length = recvHdrLen →
      ((wireHdr mok req).1 = EMUNGE_SUCCESS ↔
        Cred.rd32 (req.take 4) = MAGIC ∧ (req.getD 4 0).toNat = VERSION) ∧
      ((wireHdr mok req).1 ≠ EMUNGE_SUCCESS →
        Cred.recvMsg req = .drop (if Cred.rd32 (req.take 4) ≠ MAGIC then "magic" else "version")) ∧
      ((wireHdr mok req).1 = EMUNGE_SUCCESS →
        (wireHdr mok req).2.m.int "type" = (req.getD 5 0).toNat ∧
        (wireHdr mok req).2.m.int "retry" = (req.getD 6 0).toNat ∧
        (wireHdr mok req).2.m.int "pkt_len" = Cred.rd32 ((req.drop 7).take 4) ∧
        (recvGate (MAXIMUM_REQ_LEN : Nat) ((wireHdr mok req).2.m.int "pkt_len" : Nat) →
          Cred.recvMsg req = .drop "length") ∧
        (¬ recvGate (MAXIMUM_REQ_LEN : Nat) ((wireHdr mok req).2.m.int "pkt_len" : Nat) →
          (wireBody mok req).length ≠ (wireHdr mok req).2.m.int "pkt_len" →
          Cred.recvMsg req = .drop "incomplete body") ∧
        (HdrPass mok req → (wireHdr mok req).2.m.int "type" ≠ MUNGE_MSG_ENC_REQ →
          (wireHdr mok req).2.m.int "type" ≠ MUNGE_MSG_DEC_REQ → (wireHdr mok req).2.m.int "type" ≠ MUNGE_MSG_HDR →
          Cred.recvMsg req = .drop "type"))) := by
  refine ⟨fun hs => ?_, fun h11' => ?_⟩
  · have : ¬ 11 ≤ req.length := fun h => hs ((take_hdr_len req).mpr h)
    rw [Cred.recvMsg_eq, if_pos (by omega)]
  have h11 := (take_hdr_len req).mp h11'
  have hiff := wireHdr_ok_iff mok req h11
  refine ⟨hiff, fun hbad => ?_, fun hok => ?_⟩
  · have hb : ¬ (Cred.hMagic req = MAGIC ∧ Cred.hVer req = VERSION) := fun h => hbad (hiff.mpr h)
    rw [Cred.recvMsg_eq, if_neg (by omega)]
    by_cases hmg : Cred.hMagic req ≠ 6319435
    · rw [if_pos hmg]
      have : Cred.rd32 (req.take 4) ≠ MAGIC := hmg
      rw [if_pos this]
    · rw [if_neg hmg]
      have hv : Cred.hVer req ≠ 4 := fun hv => hb ⟨Decidable.not_not.mp hmg, hv⟩
      have : ¬ Cred.rd32 (req.take 4) ≠ MAGIC := hmg
      rw [if_pos hv, if_neg this]
  · have hm := wireHdr_msg mok req h11 hok
    obtain ⟨hmg, hv⟩ := hiff.mp hok
    have hn := wireHdr_len mok req h11 hok
    have hb := wireBody_eq mok req h11 hok
    refine ⟨by rw [hm]; exact hdrOn_type .., by rw [hm]; exact hdrOn_retry .., hn, fun hg => ?_, fun hg hsb => ?_,
      fun hp h2 h4 h1 => ?_⟩
    · rw [hn] at hg
      rw [Cred.recvMsg_eq, if_neg (by omega), if_neg (by rw [hmg]; decide), if_neg (by rw [hv]; decide),
        if_pos ((gate_iff _).mp hg)]
    · rw [hn] at hg hsb
      rw [hb] at hsb
      have hle : ((req.drop 11).take (Cred.hLen req)).length ≤ Cred.hLen req := by
        simp only [List.length_take]; omega
      rw [Cred.recvMsg_eq, if_neg (by omega), if_neg (by rw [hmg]; decide), if_neg (by rw [hv]; decide),
        if_neg (fun h => hg ((gate_iff _).mpr h)), if_pos (by omega)]
    · rw [wireHdr_type mok req hp] at h2 h4 h1
      rw [recvMsg_of_pass mok req hp, if_neg (show ¬ Cred.hType req = 2 from h2), if_neg (show ¬ Cred.hType req = 4 from h4),
        if_neg (show ¬ Cred.hType req = 1 from h1)]

/-! ### (b) the request bodies -/

/-- ENC_REQ.  For a request that passes the header steps with type 2, `Cred.recvMsg` yields `.enc m` exactly
    when `_msg_unpack` of the generated ENC_REQ list succeeds, and then `m` is the unpacked message as the
    credential model sees it (`reqOf`: cipher, mac, zip, realm_len, realm bytes, ttl, auth_uid, auth_gid,
    data_len, data bytes from the body chain; type and retry from the header; everything else as
    `m_msg_create` left it; `error_str` NULL); it yields `.drop` (reason "unpack") exactly when the unpack
    reports an error (`err`: a field or a declared length runs past the packet; `nomem`: `data_len ≥ 2^31`
    is negative as an `int`). -/
theorem recvMsg_enc_is_wire (mok : Nat → Bool) (hmok : ∀ n, mok n = true) (req : Bytes)
    (hp : HdrPass mok req) (ht : (wireHdr mok req).2.m.int "type" = MUNGE_MSG_ENC_REQ) :
    ((wireBodyUnpack mok req).1 = EMUNGE_SUCCESS ↔ ∃ m, Cred.recvMsg req = .enc m) ∧
    ((wireBodyUnpack mok req).1 = EMUNGE_SUCCESS →
      Cred.recvMsg req = .enc (reqOf (wireBodyUnpack mok req).2.m) ∧
      (wireBodyUnpack mok req).2.m.buf "error_str" = none) ∧
    ((wireBodyUnpack mok req).1 ≠ EMUNGE_SUCCESS ↔ ∃ why, Cred.recvMsg req = .drop why) ∧
    ((wireBodyUnpack mok req).1 ≠ EMUNGE_SUCCESS → Cred.recvMsg req = .drop "unpack") :=
  ((reqAgrees mok hmok req hp).1 ((wireHdr_type mok req hp).symm.trans ht)).iff_verdict (fun _ _ => nofun)

/-- ENC_REQ, field by field: whenever `Cred.recvMsg` yields `.enc m` for a request that passes the header steps
    with type 2, every field of `m` is the member the generated chain unpacked, and type / retry are the
    header's. -/
theorem recvMsg_enc_fields (mok : Nat → Bool) (hmok : ∀ n, mok n = true) (req : Bytes)
    (hp : HdrPass mok req) (ht : (wireHdr mok req).2.m.int "type" = MUNGE_MSG_ENC_REQ)
    (m : Cred.Msg) (hm : Cred.recvMsg req = .enc m) :
    (wireBodyUnpack mok req).1 = EMUNGE_SUCCESS ∧
    m.cipher = (wireBodyUnpack mok req).2.m.int "cipher" ∧ m.mac = (wireBodyUnpack mok req).2.m.int "mac" ∧
    m.zip = (wireBodyUnpack mok req).2.m.int "zip" ∧
    m.realmLen = (wireBodyUnpack mok req).2.m.int "realm_len" ∧
    m.realm = (wireBodyUnpack mok req).2.m.bytesOf "realm_str" .heap ∧
    m.ttl = (wireBodyUnpack mok req).2.m.int "ttl" ∧
    m.authUid = (wireBodyUnpack mok req).2.m.int "auth_uid" ∧
    m.authGid = (wireBodyUnpack mok req).2.m.int "auth_gid" ∧
    m.dataLen = (wireBodyUnpack mok req).2.m.int "data_len" ∧
    m.data = (wireBodyUnpack mok req).2.m.bytesOf "data" .heap ∧
    m.type = (wireHdr mok req).2.m.int "type" ∧ m.retry = (wireHdr mok req).2.m.int "retry" := by
  obtain ⟨h1, h2, _, _⟩ := recvMsg_enc_is_wire mok hmok req hp ht
  have hok := h1.mpr ⟨m, hm⟩
  obtain rfl : m = reqOf _ := Cred.Recv.enc.inj (hm.symm.trans (h2 hok).1)
  have hty := wireBodyUnpack_type mok req (by rw [ht]; decide)
  have hre := wireBodyUnpack_retry mok req (.inl ht)
  -- the fields of `reqOf w` are members of `w` by definition, read off a structure literal once `w` is a variable
  generalize (wireBodyUnpack mok req).2.m = w at hty hre ⊢
  exact ⟨hok, rfl, rfl, rfl, rfl, rfl, rfl, rfl, rfl, rfl, rfl, hty, hre⟩

/-- DEC_REQ.  As `recvMsg_enc_is_wire`, for type 4 and the generated DEC_REQ list (data_len, data). -/
theorem recvMsg_dec_is_wire (mok : Nat → Bool) (hmok : ∀ n, mok n = true) (req : Bytes)
    (hp : HdrPass mok req) (ht : (wireHdr mok req).2.m.int "type" = MUNGE_MSG_DEC_REQ) :
    ((wireBodyUnpack mok req).1 = EMUNGE_SUCCESS ↔ ∃ m, Cred.recvMsg req = .dec m) ∧
    ((wireBodyUnpack mok req).1 = EMUNGE_SUCCESS →
      Cred.recvMsg req = .dec (reqOf (wireBodyUnpack mok req).2.m) ∧
      (wireBodyUnpack mok req).2.m.buf "error_str" = none) ∧
    ((wireBodyUnpack mok req).1 ≠ EMUNGE_SUCCESS ↔ ∃ why, Cred.recvMsg req = .drop why) ∧
    ((wireBodyUnpack mok req).1 ≠ EMUNGE_SUCCESS → Cred.recvMsg req = .drop "unpack") :=
  ((reqAgrees mok hmok req hp).2 ((wireHdr_type mok req hp).symm.trans ht)).iff_verdict (fun _ _ => nofun)

/-- DEC_REQ, field by field. -/
theorem recvMsg_dec_fields (mok : Nat → Bool) (hmok : ∀ n, mok n = true) (req : Bytes)
    (hp : HdrPass mok req) (ht : (wireHdr mok req).2.m.int "type" = MUNGE_MSG_DEC_REQ)
    (m : Cred.Msg) (hm : Cred.recvMsg req = .dec m) :
    (wireBodyUnpack mok req).1 = EMUNGE_SUCCESS ∧
    m.dataLen = (wireBodyUnpack mok req).2.m.int "data_len" ∧
    m.data = (wireBodyUnpack mok req).2.m.bytesOf "data" .heap ∧
    m.type = (wireHdr mok req).2.m.int "type" ∧ m.retry = (wireHdr mok req).2.m.int "retry" := by
  obtain ⟨h1, h2, _, _⟩ := recvMsg_dec_is_wire mok hmok req hp ht
  have hok := h1.mpr ⟨m, hm⟩
  obtain rfl : m = reqOf _ := Cred.Recv.dec.inj (hm.symm.trans (h2 hok).1)
  have hty := wireBodyUnpack_type mok req (by rw [ht]; decide)
  have hre := wireBodyUnpack_retry mok req (.inr ht)
  -- the fields of `reqOf w` are members of `w` by definition, read off a structure literal once `w` is a variable
  generalize (wireBodyUnpack mok req).2.m = w at hty hre ⊢
  exact ⟨hok, rfl, rfl, hty, hre⟩

/-- A request whose header says MUNGE_MSG_HDR (type 1).  `m_msg_recv` unpacks the body with the header list,
    which checks a second magic / version and overwrites `m->type` and `m->retry`; `_job_exec` dispatches on
    the second type with every other member as `m_msg_create` left it.  `Cred.recvMsg` (`recvHdrBody`) does the
    same: a failing unpack drops; otherwise the result is `.enc` / `.dec` of the unpacked message when the
    second type is 2 / 4, and a drop ("type") else. -/
theorem recvMsg_hdr_is_wire (mok : Nat → Bool) (req : Bytes)
    (hp : HdrPass mok req) (ht : (wireHdr mok req).2.m.int "type" = MUNGE_MSG_HDR) :
    ((wireBodyUnpack mok req).1 ≠ EMUNGE_SUCCESS → ∃ why, Cred.recvMsg req = .drop why) ∧
    ((wireBodyUnpack mok req).1 = EMUNGE_SUCCESS →
      ((wireBodyUnpack mok req).2.m.int "type" = MUNGE_MSG_ENC_REQ →
        Cred.recvMsg req = .enc (reqOf (wireBodyUnpack mok req).2.m)) ∧
      ((wireBodyUnpack mok req).2.m.int "type" = MUNGE_MSG_DEC_REQ →
        Cred.recvMsg req = .dec (reqOf (wireBodyUnpack mok req).2.m)) ∧
      ((wireBodyUnpack mok req).2.m.int "type" ≠ MUNGE_MSG_ENC_REQ →
        (wireBodyUnpack mok req).2.m.int "type" ≠ MUNGE_MSG_DEC_REQ → Cred.recvMsg req = .drop "type")) := by
  have hty : Cred.hType req = 1 := (wireHdr_type mok req hp).symm.trans ht
  have hR := recvMsg_of_pass mok req hp
  rw [if_neg (by omega), if_neg (by omega), if_pos hty] at hR
  have hU := wireBodyUnpack_of_pass mok req hp
  rw [hty] at hU
  rw [hR, hU]
  rcases unpack_hdrbody mok (Cred.hMagic req) (Cred.hVer req) (Cred.hRetry req) (Cred.hLen req) (wireBody mok req) with
    ⟨h1, h2⟩ | ⟨h1, h2, h3⟩
  · exact ⟨fun _ => h2, fun h => absurd h h1⟩
  · refine ⟨fun h => absurd h1 h, fun _ => ?_⟩
    rw [h2, h3]
    exact ⟨fun (k : _ = 2) => by rw [if_pos k], fun (k : _ = 4) => by rw [if_neg (by omega), if_pos k],
      fun (k2 : ¬ _ = 2) (k4 : ¬ _ = 4) => by rw [if_neg k2, if_neg k4]⟩

/-! ### (a)+(b) together: `Cred.recvMsg` against `m_msg_recv` + the dispatch of `_job_exec` -/

/-- For EVERY byte string: `Cred.recvMsg` yields `.enc m` / `.dec m` exactly when
    `m_msg_recv (m, MUNGE_MSG_UNDEF, MUNGE_MAXIMUM_REQ_LEN)` (over the generated lists, chain and gate, on a
    fresh message, `malloc` succeeding) returns success with `m->type` = ENC_REQ / DEC_REQ, and then `m` is
    the received message; it yields `.drop` exactly when the receive fails or leaves another type (the
    `default:` of `_job_exec`'s switch: no reply).  The three right-hand sides are exclusive and exhaustive. -/
theorem recvMsg_is_wire_recv (mok : Nat → Bool) (hmok : ∀ n, mok n = true) (req : Bytes) :
    match Cred.recvMsg req with
    | .enc m =>
        (recv mok Msg.fresh MUNGE_MSG_UNDEF (MAXIMUM_REQ_LEN : Nat) req).rc = EMUNGE_SUCCESS ∧
        (recv mok Msg.fresh MUNGE_MSG_UNDEF (MAXIMUM_REQ_LEN : Nat) req).m.int "type" = MUNGE_MSG_ENC_REQ ∧
        m = reqOf (recv mok Msg.fresh MUNGE_MSG_UNDEF (MAXIMUM_REQ_LEN : Nat) req).m
    | .dec m =>
        (recv mok Msg.fresh MUNGE_MSG_UNDEF (MAXIMUM_REQ_LEN : Nat) req).rc = EMUNGE_SUCCESS ∧
        (recv mok Msg.fresh MUNGE_MSG_UNDEF (MAXIMUM_REQ_LEN : Nat) req).m.int "type" = MUNGE_MSG_DEC_REQ ∧
        m = reqOf (recv mok Msg.fresh MUNGE_MSG_UNDEF (MAXIMUM_REQ_LEN : Nat) req).m
    | .drop _ =>
        (recv mok Msg.fresh MUNGE_MSG_UNDEF (MAXIMUM_REQ_LEN : Nat) req).rc ≠ EMUNGE_SUCCESS ∨
        ((recv mok Msg.fresh MUNGE_MSG_UNDEF (MAXIMUM_REQ_LEN : Nat) req).m.int "type" ≠ MUNGE_MSG_ENC_REQ ∧
         (recv mok Msg.fresh MUNGE_MSG_UNDEF (MAXIMUM_REQ_LEN : Nat) req).m.int "type" ≠ MUNGE_MSG_DEC_REQ) := by
  by_cases hp : HdrPass mok req
  · obtain ⟨hA2, hA4⟩ := reqAgrees mok hmok req hp
    have ht := wireHdr_type mok req hp
    by_cases h2 : Cred.hType req = 2
    · rcases (hA2 h2).recv hmok hp (by omega) with ⟨r1, r2, e⟩ | ⟨r1, e⟩ <;> rw [e]
      · exact ⟨r1, r2.trans h2, rfl⟩
      · exact .inl r1
    by_cases h4 : Cred.hType req = 4
    · rcases (hA4 h4).recv hmok hp (by omega) with ⟨r1, r2, e⟩ | ⟨r1, e⟩ <;> rw [e]
      · exact ⟨r1, r2.trans h4, rfl⟩
      · exact .inl r1
    have hB := (recv_pieces mok hmok req).2.1 hp
    by_cases hs : (wireBodyUnpack mok req).1 = EMUNGE_SUCCESS
    · obtain ⟨r1, r2, r3⟩ := recv_ok mok hmok req hp hs
      by_cases h1 : Cred.hType req = 1
      · -- a header in the body: the second header's type decides
        obtain ⟨e2, e4, e0⟩ := (recvMsg_hdr_is_wire mok req hp (ht.trans h1)).2 hs
        by_cases k2 : (wireBodyUnpack mok req).2.m.int "type" = MUNGE_MSG_ENC_REQ
        · rw [e2 k2]; exact ⟨r1, r2.trans k2, r3.symm⟩
        by_cases k4 : (wireBodyUnpack mok req).2.m.int "type" = MUNGE_MSG_DEC_REQ
        · rw [e4 k4]; exact ⟨r1, r2.trans k4, r3.symm⟩
        · rw [e0 k2 k4, r2]; exact .inr ⟨k2, k4⟩
      · rw [recvMsg_of_pass mok req hp, if_neg h2, if_neg h4, if_neg h1, r2, wireBodyUnpack_type mok req (by rwa [ht]), ht]
        exact .inr ⟨h2, h4⟩
    · by_cases h1 : Cred.hType req = 1
      · obtain ⟨w, hw⟩ := (recvMsg_hdr_is_wire mok req hp (ht.trans h1)).1 hs
        rw [hw]; exact .inl (hB hs)
      · rw [recvMsg_of_pass mok req hp, if_neg h2, if_neg h4, if_neg h1]
        exact .inl (hB hs)
  · obtain ⟨w, hw⟩ := recvMsg_not_pass mok req hp
    rw [hw]
    exact .inl ((recv_pieces mok hmok req).1 hp)

/-! ### (c) the replies -/

/-- ENC_RSP.  For a credential-model message `m` with `data_len ≤ |data|` whose reply body (2 + error_len + 4 +
    data_len bytes, `encRspLen`) fits a C `int`: with `w` the `struct m_msg` `m` stands for (`wireOf`), `pkt_len`
    and `type` set as `m_msg_send` sets them, `_msg_length` over the generated list is the body size,
    `_msg_pack` of the generated header list and of the generated ENC_RSP list both succeed, and the bytes
    `Cred.encRsp m` are exactly header ‖ body; so `m_msg_send (m, MUNGE_MSG_ENC_RSP, 0)` writes `Cred.encRsp m`.
    No range condition on the integer members is needed (`_pack` truncates exactly as `UInt8.ofNat` / `be32`
    do), none on the error text (`error_len` wraps mod 256 on both sides). -/
theorem encRsp_is_wire_pack (mok : Nat → Bool) (hmok : ∀ n, mok n = true) (m : Cred.Msg)
    (hd : m.dataLen ≤ m.data.length) (hsz : encRspLen m < 2147483648) :
    Wire.length MUNGE_MSG_ENC_RSP (wireOf m) = (encRspLen m : Int) ∧
    ∃ hdr body,
      Wire.pack MUNGE_MSG_HDR (((wireOf m).setInt "pkt_len" (encRspLen m)).setInt "type" MUNGE_MSG_ENC_RSP)
        (HDR_SIZE : Nat) =
        (EMUNGE_SUCCESS, ((wireOf m).setInt "pkt_len" (encRspLen m)).setInt "type" MUNGE_MSG_ENC_RSP, hdr) ∧
      Wire.pack MUNGE_MSG_ENC_RSP (((wireOf m).setInt "pkt_len" (encRspLen m)).setInt "type" MUNGE_MSG_ENC_RSP)
        (encRspLen m : Nat) =
        (EMUNGE_SUCCESS, ((wireOf m).setInt "pkt_len" (encRspLen m)).setInt "type" MUNGE_MSG_ENC_RSP, body) ∧
      Cred.encRsp m = hdr ++ body ∧
      Wire.send mok (wireOf m) MUNGE_MSG_ENC_RSP 0 =
        (EMUNGE_SUCCESS, ((wireOf m).setInt "pkt_len" (encRspLen m)).setInt "type" MUNGE_MSG_ENC_RSP,
          Cred.encRsp m) := by
  obtain ⟨body, e, h⟩ := encRsp_send mok hmok m hd hsz
  exact ⟨h.length, _, body, h.packHdr, h.packBody, e, e ▸ h.send⟩

/-- DEC_RSP.  As `encRsp_is_wire_pack`, for the 19 fields of the generated DEC_RSP list; side conditions:
    `realm_len ≤ |realm|`, `addr_len ≤ |addr|`, `data_len ≤ |data|` (each declared length is covered by its
    member — otherwise the C would read past the member and the header would announce more bytes than are
    sent), and the body size `decRspLen m` = 39 + error_len + realm_len + addr_len + data_len fits an `int`. -/
theorem decRsp_is_wire_pack (mok : Nat → Bool) (hmok : ∀ n, mok n = true) (m : Cred.Msg)
    (hr : m.realmLen ≤ m.realm.length) (ha : m.addrLen ≤ m.addr.length) (hd : m.dataLen ≤ m.data.length)
    (hsz : decRspLen m < 2147483648) :
    Wire.length MUNGE_MSG_DEC_RSP (wireOf m) = (decRspLen m : Int) ∧
    ∃ hdr body,
      Wire.pack MUNGE_MSG_HDR (((wireOf m).setInt "pkt_len" (decRspLen m)).setInt "type" MUNGE_MSG_DEC_RSP)
        (HDR_SIZE : Nat) =
        (EMUNGE_SUCCESS, ((wireOf m).setInt "pkt_len" (decRspLen m)).setInt "type" MUNGE_MSG_DEC_RSP, hdr) ∧
      Wire.pack MUNGE_MSG_DEC_RSP (((wireOf m).setInt "pkt_len" (decRspLen m)).setInt "type" MUNGE_MSG_DEC_RSP)
        (decRspLen m : Nat) =
        (EMUNGE_SUCCESS, ((wireOf m).setInt "pkt_len" (decRspLen m)).setInt "type" MUNGE_MSG_DEC_RSP, body) ∧
      Cred.decRsp m = hdr ++ body ∧
      Wire.send mok (wireOf m) MUNGE_MSG_DEC_RSP 0 =
        (EMUNGE_SUCCESS, ((wireOf m).setInt "pkt_len" (decRspLen m)).setInt "type" MUNGE_MSG_DEC_RSP,
          Cred.decRsp m) := by
  obtain ⟨body, e, h⟩ := decRsp_send mok hmok m hr ha hd hsz
  exact ⟨h.length, _, body, h.packHdr, h.packBody, e, e ▸ h.send⟩

/-- Every message `enc_process_msg` hands to `m_msg_send` (success or failure exit) satisfies the length
    condition of `encRsp_is_wire_pack`: what `Cred.jobExec` sends for an encode request is what `m_msg_send`
    over the generated lists writes, provided the reply fits an `int` (the size of a credential depends on the
    cryptographic primitives, which are parameters here). -/
theorem encProcess_reply_is_wire_pack (mok : Nat → Bool) (hmok : ∀ n, mok n = true)
    (P : Cred.Prims) (cf : Cred.Conf) (env : Cred.Env) (m0 : Cred.Msg)
    (hsz : encRspLen (Cred.encProcess P cf env m0).1 < 2147483648) :
    Wire.send mok (wireOf (Cred.encProcess P cf env m0).1) MUNGE_MSG_ENC_RSP 0 =
      (EMUNGE_SUCCESS,
        ((wireOf (Cred.encProcess P cf env m0).1).setInt "pkt_len" (encRspLen (Cred.encProcess P cf env m0).1)).setInt
          "type" MUNGE_MSG_ENC_RSP,
        Cred.encRsp (Cred.encProcess P cf env m0).1) := by
  obtain ⟨_, e, h⟩ := encRsp_send mok hmok _ (encProcess_lens P cf env m0) hsz
  exact e ▸ h.send

/-- Every message `dec_process_msg` hands to `m_msg_send` (hard failure: reset; soft failure; success) satisfies
    the three length conditions of `decRsp_is_wire_pack` (realm_len = (|realm|+1) mod 256 ≤ |realm ‖ NUL| or 0;
    addr_len ∈ {0, 4} with a 4-byte `addr`; data_len = |data|): what `Cred.jobExec` sends for a decode request
    is what `m_msg_send` over the generated lists writes, provided the reply fits an `int`. -/
theorem decProcess_reply_is_wire_pack (mok : Nat → Bool) (hmok : ∀ n, mok n = true)
    (P : Cred.Prims) (cf : Cred.Conf) (env : Cred.Env) (rs : Cred.ReplaySet) (m0 : Cred.Msg)
    (hsz : decRspLen (Cred.decProcess P cf env rs m0).msg < 2147483648) :
    Wire.send mok (wireOf (Cred.decProcess P cf env rs m0).msg) MUNGE_MSG_DEC_RSP 0 =
      (EMUNGE_SUCCESS,
        ((wireOf (Cred.decProcess P cf env rs m0).msg).setInt "pkt_len"
          (decRspLen (Cred.decProcess P cf env rs m0).msg)).setInt "type" MUNGE_MSG_DEC_RSP,
        Cred.decRsp (Cred.decProcess P cf env rs m0).msg) := by
  obtain ⟨h1, h2, h3⟩ := decProcess_lens P cf env rs m0
  obtain ⟨_, e, h⟩ := decRsp_send mok hmok _ h1 h2 h3 hsz
  exact e ▸ h.send

/-! ### a request whose body is a second header -/

/-- header (magic, version 4, type 1 = MUNGE_MSG_HDR, retry 0, pkt_len 11) followed by a second header
    (magic, version 4, type 2, retry 0, pkt_len 0) -/
def nestedHdrReq : Bytes :=
  [0x00, 0x60, 0x6d, 0x4b, 4, 1, 0, 0, 0, 0, 11, 0x00, 0x60, 0x6d, 0x4b, 4, 2, 0, 0, 0, 0, 0]

/-- The real daemon answers `nestedHdrReq` with an ENC_RSP ("Invalid MAC type 0"): the body is unpacked with the
    header chain, which overwrites `m->type` with 2.  Both models now agree on it: an ENC_REQ whose every
    field is zero.  (Before `recvHdrBody` was added, `Cred.recvMsg` answered `.drop "type"` here while
    `Wire.recv` returned success with type 2.) -/
theorem nestedHdrReq_agrees (mok : Nat → Bool) (hmok : ∀ n, mok n = true) :
    Cred.recvMsg nestedHdrReq = .enc { type := 2, retry := 0 } ∧
    (recv mok Msg.fresh MUNGE_MSG_UNDEF (MAXIMUM_REQ_LEN : Nat) nestedHdrReq).rc = EMUNGE_SUCCESS ∧
    (recv mok Msg.fresh MUNGE_MSG_UNDEF (MAXIMUM_REQ_LEN : Nat) nestedHdrReq).m.int "type" = MUNGE_MSG_ENC_REQ ∧
    reqOf (recv mok Msg.fresh MUNGE_MSG_UNDEF (MAXIMUM_REQ_LEN : Nat) nestedHdrReq).m = { type := 2, retry := 0 } := by
  have h1 : Cred.recvMsg nestedHdrReq = .enc { type := 2, retry := 0 } := by
    rw [Cred.recvMsg_eq]
    simp [nestedHdrReq, Cred.hMagic, Cred.hVer, Cred.hLen, Cred.hType, Cred.rd32, Munge.Gen.Dec.MUNGE_MAXIMUM_REQ_LEN,
      Cred.recvHdrBody]
  have := recvMsg_is_wire_recv mok hmok nestedHdrReq
  rw [h1] at this
  exact ⟨h1, this.1, this.2.1, this.2.2.symm⟩

end Munge.WireCred
