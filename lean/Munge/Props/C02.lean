import Munge.Model.Cred
import Munge.Model.PrimLaws
import Munge.Lemmas.CredDec
/-
C02 — any altered or foreign-key credential is rejected and discloses nothing.

What is PROVED is the logic: nothing of the interior is released unless the recomputed MAC — under the
daemon's MAC subkey, over exactly OUTER ‖ (decrypted, still compressed) INNER, compared over the full
digest length — equals the received MAC; every other outcome is a hard error whose reply is sanitised.
What is ASSUMED is cryptographic strength, as explicit named hypotheses of the last theorems
(`Unforgeable`, `KeySeparation`) — never as axioms.
-/
namespace Munge.C02
open Munge.Cred Munge.Gen.Dec

/-- outcomes that disclose fields of the credential -/
def discloses (e : Nat) : Prop :=
  e = 0 ∨ (e : Int) = EMUNGE_CRED_EXPIRED ∨ (e : Int) = EMUNGE_CRED_REWOUND ∨ (e : Int) = EMUNGE_CRED_REPLAYED

/-- the plaintext (still compressed) inner layer the daemon MACs -/
def plainOf (P : Prims) (cf : Conf) (m : Msg) (s : Scratch) : Bytes := (decDecrypt P cf m s).2.inner

/-- ACCEPT ⇒ MAC.  If a decode ends in success or a soft error (the only outcomes that disclose
    anything), then the credential parsed as OUTER ‖ MAC ‖ INNER, padding removal (if encrypted)
    succeeded, and MAC = mac(macKey, OUTER ‖ plain INNER). -/
theorem accept_implies_mac (P : Prims) (cf : Conf) (env : Env) (rs : ReplaySet) (m0 : Msg) (h0 : m0.errorNum = 0)
    (hd : discloses (decProcess P cf env rs m0).msg.errorNum) :
    ∃ m s, decFront P env rs m0 = .inr (m, s) ∧
      P.mac m.mac cf.macKey (s.outer ++ plainOf P cf m s) = s.mac ∧
      (m.cipher ≠ 0 → (P.decrypt m.cipher (P.mac m.mac cf.dekKey s.mac) s.iv s.inner).2 = true) := by
  rcases decProcess_spec P cf env rs m0 with ⟨m', ho, _, _, hh⟩ | ⟨m, s, hf, ha, _⟩
  · rw [ho] at hd
    exact absurd hd (hh h0).not_soft
  · exact ⟨m, s, hf, ha.1, ha.2⟩

/-- BAD MAC ⇒ NOTHING.  Conversely, if the recomputed MAC differs from the received one, the decode is
    a hard error and the message that is sent has every data-bearing field at its "nothing" value. -/
theorem bad_mac_discloses_nothing (P : Prims) (cf : Conf) (env : Env) (rs : ReplaySet) (m0 m : Msg) (s : Scratch)
    (h0 : m0.errorNum = 0) (hf : decFront P env rs m0 = .inr (m, s))
    (hbad : P.mac m.mac cf.macKey (s.outer ++ plainOf P cf m s) ≠ s.mac) :
    let o := decProcess P cf env rs m0
    o.rc = -1 ∧ (o.msg.errorNum : Int) = EMUNGE_CRED_INVALID ∧ o.msg.dataLen = 0 ∧ o.msg.data = [] ∧
    o.msg.credUid = UID_ANY ∧ o.msg.credGid = GID_ANY ∧ o.msg.ttl = 0 ∧ o.msg.time0 = 0 ∧ o.replay = rs := by
  intro o
  obtain ⟨m', ho, _, he, _⟩ := decProcess_of_not_authentic P cf env rs m0 m s h0 hf fun ha => hbad ha.1
  rw [show o = _ from ho]
  refine ⟨rfl, ?_, rfl, rfl, rfl, rfl, rfl, rfl, rfl⟩
  show ((m'.errorNum : Nat) : Int) = _
  rw [he]; rfl

/-- the comparison covers the whole digest: a credential whose MAC field agrees with the correct MAC
    on all bytes but one is rejected (no prefix comparison) -/
theorem mac_compare_is_full_length (P : Prims) (cf : Conf) (m : Msg) (s : Scratch)
    (hne : P.mac m.mac cf.macKey (s.outer ++ s.inner) ≠ s.mac) :
    ∃ m', decValidateMac P cf m s = .error m' := by
  cases h : decValidateMac P cf m s with
  | error m' => exact ⟨m', rfl⟩
  | ok m' => exact absurd (decValidateMac_ok P cf m m' s h).2.1 hne

/-- every parse failure before the MAC is a hard error too (truncations, bad version, unknown types,
    bad armor): the front part either fails with a sanitised message or yields the parsed layers -/
theorem front_failure_discloses_nothing (P : Prims) (env : Env) (rs : ReplaySet) (m0 : Msg) (o : DecOut)
    (h0 : m0.errorNum = 0) (hf : decFront P env rs m0 = .inl o) :
    o.rc = -1 ∧ o.msg.errorNum ≠ 0 ∧ ¬ discloses o.msg.errorNum ∧ o.msg.dataLen = 0 ∧ o.msg.data = [] ∧
    o.msg.credUid = UID_ANY ∧ o.msg.credGid = GID_ANY ∧ o.replay = rs := by
  have h := decFront_spec P env rs m0
  rw [hf] at h
  obtain ⟨m', rfl, _, he, hh⟩ := h
  exact ⟨rfl, he, (hh h0).not_soft, rfl, rfl, rfl, rfl, rfl⟩

/-- Cryptographic idealisation, stated as a hypothesis about the finite world at hand: the only
    (type, message, tag) triples valid under the daemon's MAC key that anybody can present are those the
    daemon(s) holding the key emitted. -/
def Unforgeable (P : Prims) (macKey : Bytes) (emitted : List (Nat × Bytes × Bytes)) : Prop :=
  ∀ t msg tag, P.mac t macKey msg = tag → (t, msg, tag) ∈ emitted

/-- REJECT ALTERED.  Under `Unforgeable`: any decode that discloses anything was of a credential whose
    (MAC type, OUTER ‖ plain INNER, MAC) was emitted by a holder of the key.  Contrapositive: a body that
    differs from every emitted one in its MAC'd content or MAC — a flipped bit, a truncation, an extension,
    a splice, a rewritten header — gets a hard error, and by `bad_mac_discloses_nothing` /
    `front_failure_discloses_nothing` a reply with no payload, UID, GID or metadata. -/
theorem reject_altered (P : Prims) (cf : Conf) (env : Env) (rs : ReplaySet) (m0 : Msg) (h0 : m0.errorNum = 0)
    (emitted : List (Nat × Bytes × Bytes)) (hU : Unforgeable P cf.macKey emitted)
    (hd : discloses (decProcess P cf env rs m0).msg.errorNum) :
    ∃ m s, decFront P env rs m0 = .inr (m, s) ∧ (m.mac, s.outer ++ plainOf P cf m s, s.mac) ∈ emitted := by
  obtain ⟨m, s, hf, hmac, _⟩ := accept_implies_mac P cf env rs m0 h0 hd
  exact ⟨m, s, hf, hU _ _ _ hmac⟩

/-- different key files give different MAC subkeys, and tags under different subkeys do not coincide on
    the messages at hand (collision-freeness of the subkey derivation and of the MAC) -/
def KeySeparation (P : Prims) (k1 k2 : Bytes) : Prop :=
  ∀ t msg, P.macValid t = true → P.mac t k1 msg ≠ P.mac t k2 msg

/-- REJECT FOREIGN KEY.  Under `KeySeparation`, a credential whose MAC was computed under another key is
    never accepted by this daemon: its decode cannot disclose anything. -/
theorem reject_foreign_key (P : Prims) (L : PrimLaws P) (cf : Conf) (otherKey : Bytes) (env : Env) (rs : ReplaySet)
    (m0 m : Msg) (s : Scratch) (h0 : m0.errorNum = 0) (hK : KeySeparation P cf.macKey otherKey)
    (hf : decFront P env rs m0 = .inr (m, s))
    (hforeign : s.mac = P.mac m.mac otherKey (s.outer ++ plainOf P cf m s)) :
    ¬ discloses (decProcess P cf env rs m0).msg.errorNum := by
  intro hd
  obtain ⟨m', s', hf', hmac, _⟩ := accept_implies_mac P cf env rs m0 h0 hd
  rw [hf] at hf'
  cases hf'
  have hfs := decFront_spec P env rs m0
  rw [hf] at hfs
  obtain ⟨_, _, hfs⟩ := hfs
  exact hK m.mac _ hfs.macValid (hmac.trans hforeign)

end Munge.C02
