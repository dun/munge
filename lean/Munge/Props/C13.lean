import Munge.Model.Retry
import Munge.Lemmas.Retry
import Munge.Model.ToyPrims
import Munge.Lemmas.ToyLaws
/-
C13 — broken connections are retried safely and never burn a credential.

Theorems about `Munge/Model/Retry.lean`: the loop of `m_msg_client_xfer` (its shape — initial counter, which
failures are retried, exit tests, retry byte, counter update — regenerated from src/libmunge/m_msg_client.c
into `Munge.Gen.Retry` on every run) driving, per attempt, the daemon's request path of `Munge/Model/Cred.lean`
(kernels `dec_check_retry`, `enc_check_retry`, `dec_validate_replay`, orchestration `dec_process_msg`
regenerated from src/munged/{dec,enc}.c into `Munge.Gen.Dec`).  A fault schedule lists, per attempt, how the
connection breaks: `q n` (after `n` request bytes reached the daemon), `f` (the daemon's reply cannot be
sent), `p n` (the client receives `n` bytes of a reply the daemon sent completely), `ok`.  Offsets are
arbitrary naturals (clamped to a strict prefix), so "for every schedule" is "at any byte of the request or of
the reply".  Generic in the primitives under `PrimLaws` exactly where C01 is.

The numbers 4 and 5 below are the property's ("up to four times in succession"; the fifth fault is a socket
error): the proofs obtain them from the generated exit test `i >= MUNGE_SOCKET_RETRY_ATTEMPTS`, the generated
initial value of `i` and the generated gates `retry > 5` / `retry <= 5` of the daemon.
-/
namespace Munge.C13
open Munge.Cred Munge.Retry Munge.C Munge.Gen.Retry

/-- `m_msg_recv` yields a message only from a complete header + body.  For EVERY byte string `s` (daemon side)
    and every expected type (client side): if `s` is shorter than a header, or shorter than the header plus the
    body length that header declares, nothing is received — the daemon drops the connection without a reply and
    without touching its state, the client's call fails.  In particular every strict prefix of a well-framed
    packet is rejected on both sides.  This is what makes the three fault classes exhaustive: a break at any
    byte offset of the request is `q`, at any byte offset of the reply `f` or `p`. -/
theorem recv_all_or_nothing :
    (∀ s : Bytes, (s.length < 11 ∨ s.length < 11 + rd32 ((s.drop 7).take 4)) → ∃ w, recvMsg s = .drop w) ∧
    (∀ (expect : Nat) (s : Bytes), (s.length < 11 ∨ s.length < 11 + rd32 ((s.drop 7).take 4)) →
        ∃ e, clientRecv expect s = .error e) ∧
    (∀ (P : Prims) (cf : Conf) (env : Env) (rs : ReplaySet) (t r : Nat) (body : Bytes) (sendOk : Bool) (k : Nat),
        body.length ≤ 1048576 → k < (reqBytes t r body).length →
        daemon P cf env rs ((reqBytes t r body).take k) sendOk = (none, rs)) ∧
    (∀ (expect t r : Nat) (body : Bytes) (k : Nat), body.length < 4294967296 → k < (hdrBytes t r body.length ++ body).length →
        clientRecv expect ((hdrBytes t r body.length ++ body).take k) = .error EMUNGE_SOCKET) :=
  ⟨recvMsg_short, fun expect s h => ⟨_, clientRecv_short expect s h⟩,
   fun P cf env rs t r body s k hb hk => daemon_prefix P cf env rs t r body s hb k hk,
   fun expect t r body k hb hk => clientRecv_short expect _ (prefix_short t r body hb k hk)⟩

/-- The client never emits a retry byte above 4 and makes at most 5 attempts — for EVERY request (type, body),
    daemon state, fault schedule of any length and any outcome of the attempts; the loop always ends inside the
    padded schedule.  The exit test of the loop is `i >= MUNGE_SOCKET_RETRY_ATTEMPTS` (the probed constant)
    or `e == EMUNGE_BAD_LENGTH`.  The daemon refuses a request whose retry byte exceeds
    MUNGE_SOCKET_RETRY_ATTEMPTS with EMUNGE_SOCKET, in decode and in encode, and accepts every smaller one. -/
theorem retry_header_range :
    (∀ (P : Prims) (cf : Conf) (env : Env) (rs : ReplaySet) (type : Nat) (body : Bytes) (sched : List Fault),
        (xfer P cf env rs type body sched).trace.length ≤ 5 ∧
        (∀ p ∈ (xfer P cf env rs type body sched).trace, p.1 ≤ 4) ∧
        (xfer P cf env rs type body sched).err ≠ -1) ∧
    (∀ i e : Int, stop i e = true ↔ (i ≥ MUNGE_SOCKET_RETRY_ATTEMPTS ∨ e = EMUNGE_BAD_LENGTH)) ∧
    (∀ retry uid gid : Int,
        ((Munge.Gen.Dec.dec_check_retry retry uid gid).ret < 0 ↔ retry > MUNGE_SOCKET_RETRY_ATTEMPTS) ∧
        ((Munge.Gen.Dec.enc_check_retry retry uid gid).ret < 0 ↔ retry > MUNGE_SOCKET_RETRY_ATTEMPTS) ∧
        ((Munge.Gen.Dec.dec_check_retry retry uid gid).ret < 0 → (Munge.Gen.Dec.dec_check_retry retry uid gid).err = EMUNGE_SOCKET) ∧
        ((Munge.Gen.Dec.enc_check_retry retry uid gid).ret < 0 → (Munge.Gen.Dec.enc_check_retry retry uid gid).err = EMUNGE_SOCKET)) := by
  refine ⟨fun P cf env rs type body sched => ?_, fun i e => ?_, fun retry uid gid => ?_⟩
  · rw [xfer_eq]
    obtain ⟨h1, h2, h3⟩ := xferLoop_inRange P cf env type body (sched ++ .ok :: List.replicate 5 .ok) 0 rs [] []
      (by omega) rfl (fun p hp => by cases hp)
    exact ⟨h1, h2, h3 (by rw [List.length_append, List.length_cons, List.length_replicate]; omega)⟩
  · rw [stop_iff]; rfl
  · obtain ⟨d1, d2⟩ := dec_check_retry_out retry uid gid
    obtain ⟨e1, e2⟩ := enc_check_retry_out retry uid gid
    exact ⟨d1, e1, err_of_out d2, err_of_out e2⟩

/-- OBLIGATION on the source: when its final `m_msg_send` fails, `dec_process_msg` (as translated from dec.c)
    calls `replay_remove` exactly when the request succeeded AND its own `replay_insert` returned 0 — so the
    daemon of this model is the `jobExec` of the credential model that C05 / C08 / C09 speak about. -/
theorem rollback_only_own_insert :
    (∀ (rc : Int) (inserted : Bool), genRollback rc inserted = true ↔ (rc = 0 ∧ inserted = true)) ∧
    (∀ (P : Prims) (cf : Conf) (env : Env) (rs : ReplaySet) (req : Bytes) (sendOk : Bool),
        daemon P cf env rs req sendOk = jobExec P cf env rs req sendOk) := by
  refine ⟨fun rc ins => ?_, daemon_eq_jobExec⟩
  rw [genRollback_spec]
  simp

/-- For EVERY request whatsoever (encode, decode, malformed, truncated), every daemon state, environment and
    primitive table: a transaction whose reply cannot be sent leaves the replay cache exactly as it found it.
    (A first decode withdraws the record it inserted; a retry-flagged request that was exempted inserted nothing
    and withdraws nothing; everything else never touched the cache.) -/
theorem undeliverable_changes_nothing (P : Prims) (cf : Conf) (env : Env) (rs : ReplaySet) (req : Bytes) :
    daemon P cf env rs req false = (none, rs) :=
  daemon_undeliverable P cf env rs req

section Decode
open Munge.Cred.B Munge.SpecV3

/-- UNDELIVERED ⇒ NOT BURNED.  The daemon receives libmunge's whole decode request for a fresh credential
    (record absent), processes it — the decode succeeds and inserts the record — but cannot send the reply, and
    the client never retries.  Then the record is withdrawn (the cache is what it was), and a later decode on a
    fresh connection (retry 0, no faults, any later environment `env'` that still satisfies the decode
    preconditions) returns SUCCESS with the payload. -/
theorem undelivered_not_burned (P : Prims) (cf : Conf) (env env' : Env) (f : Fields) (uid gid uid' gid' : Nat)
    (S : DecSetup P cf env f uid gid) (S' : DecSetup P cf env' f uid' gid') (rs : ReplaySet) (hk : specKey P cf f ∉ rs) :
    let req := reqBytes 4 0 (decBody (credOf P cf f))
    -- the daemon did process it, successfully, and would have answered
    (∃ b, (daemon P cf env rs req true).1 = some b) ∧ specKey P cf f ∈ (daemon P cf env rs req true).2 ∧
    -- the reply is undeliverable: the record is withdrawn
    (daemon P cf env rs req false).2 = rs ∧ specKey P cf f ∉ (daemon P cf env rs req false).2 ∧
    -- a later fresh decode succeeds
    (mungeDecode P cf env' (daemon P cf env rs req false).2 (credOf P cf f) []).1.err = 0 ∧
    (mungeDecode P cf env' (daemon P cf env rs req false).2 (credOf P cf f) []).1.len = f.payload.length ∧
    (mungeDecode P cf env' (daemon P cf env rs req false).2 (credOf P cf f) []).1.data =
      (if f.payload.length > 0 then some f.payload else none) := by
  intro req
  have hreq : req = reqBytes 4 0 (decBody (credOf P cf f)) := rfl
  rw [hreq, dec_daemon P cf env f uid gid S rs rs hk 0 (by omega) (.inl rfl), daemon_undeliverable]
  refine ⟨⟨_, rfl⟩, List.mem_cons_self, rfl, hk, ?_⟩
  obtain ⟨x1, x2, r, hr, x3⟩ := decode_xfer P cf env' f uid' gid' S' rs hk [] (by simp)
  rw [mungeDecode_ok P cf env' rs _ [] _ x1 x3 rfl]
  exact ⟨rfl, rfl, decodeRsp_decView_data _ rfl⟩

/-- A RETRY-FLAGGED REQUEST DOES NOT WITHDRAW.  The record of the credential is present (an earlier attempt's
    reply was sent), the request carries retry byte 1..5: the daemon exempts it (it would answer SUCCESS), it
    inserts nothing, and when its own reply is undeliverable too the record STAYS — the behaviour since commit
    c0c9ceb (before it, this request removed a record it had not inserted, and a later unflagged replay was
    accepted: F7). -/
theorem flagged_retry_does_not_withdraw (P : Prims) (cf : Conf) (env : Env) (f : Fields) (uid gid : Nat)
    (S : DecSetup P cf env f uid gid) (rs : ReplaySet) (hk : specKey P cf f ∉ rs) (r : Nat) (h1 : 1 ≤ r) (h5 : r ≤ 5) :
    let req := reqBytes 4 r (decBody (credOf P cf f))
    let recorded := specKey P cf f :: rs
    (daemon P cf env recorded req true).1 = some (decRsp (okMsg P cf env f uid gid r)) ∧
    (okMsg P cf env f uid gid r).errorNum = 0 ∧
    (daemon P cf env recorded req false).2 = recorded ∧ specKey P cf f ∈ (daemon P cf env recorded req false).2 := by
  intro req recorded
  have hreq : req = reqBytes 4 r (decBody (credOf P cf f)) := rfl
  rw [hreq, dec_daemon P cf env f uid gid S rs recorded hk r h5 (.inr ⟨rfl, h1⟩), daemon_undeliverable]
  exact ⟨rfl, rfl, rfl, List.mem_cons_self⟩

/-- RETRY, DECODE.  For every primitive table under `PrimLaws`, every well-formed credential `f` (any cipher,
    MAC, zip, payload, restriction), every authorised client inside the validity window, every daemon state that
    has not seen the credential, and EVERY schedule of at most 4 faults (each `q n`, `f` or `p n` at any offset,
    in any order; also with clean attempts in between): `munge_decode` returns SUCCESS — never REPLAYED, also
    when an earlier attempt's reply was lost after the daemon had recorded the credential (`p n`), because the
    retried request carries retry byte ≥ 1 and is exempted — with the byte-identical payload and length, the
    encoder's UID and GID, the credential's metadata; indeed with exactly the outputs of the same call over a
    clean connection.  Afterwards the credential is recorded. -/
theorem retry_correct_decode (P : Prims) (cf : Conf) (env : Env) (f : Fields) (uid gid : Nat)
    (S : DecSetup P cf env f uid gid) (rs : ReplaySet) (hk : specKey P cf f ∉ rs) (sched : List Fault)
    (hlen : sched.length ≤ 4) :
    let r := (mungeDecode P cf env rs (credOf P cf f) sched).1
    r.err = 0 ∧ r.len = f.payload.length ∧ r.data = (if f.payload.length > 0 then some f.payload else none) ∧
    r.uid = f.uid ∧ r.gid = f.gid ∧ r.cipher = f.cipher ∧ r.mac = f.mac ∧ r.zip = f.zip ∧
    r.ttl = capT cf f.ttl ∧ r.time0 = f.time0 ∧ r.authUid = f.authUid ∧ r.authGid = f.authGid ∧
    r = (mungeDecode P cf env rs (credOf P cf f) []).1 ∧
    (mungeDecode P cf env rs (credOf P cf f) sched).2.rs = specKey P cf f :: rs := by
  have key : ∀ sch : List Fault, sch.length ≤ 4 →
      (mungeDecode P cf env rs (credOf P cf f) sch).1 = decodeRsp (decView (okMsg P cf env f uid gid 0)) ∧
      (mungeDecode P cf env rs (credOf P cf f) sch).2.rs = specKey P cf f :: rs := by
    intro sch hs
    obtain ⟨x1, x2, r, hr, x3⟩ := decode_xfer P cf env f uid gid S rs hk sch hs
    rw [mungeDecode_ok P cf env rs _ sch _ x1 x3 rfl]
    exact ⟨rfl, x2⟩
  intro r
  have hr : r = decodeRsp (decView (okMsg P cf env f uid gid 0)) := (key sched hlen).1
  rw [hr]
  exact ⟨rfl, rfl, decodeRsp_decView_data _ rfl, rfl, rfl, rfl, rfl, rfl, rfl, rfl, rfl, rfl,
    (key [] (by simp)).1.symm, (key sched hlen).2⟩

/-- the headline case spelled out: the first attempt's reply is lost after the daemon recorded the credential
    (`p n`, any `n`); the retry is answered SUCCESS, whereas the same request WITHOUT the retry flag would now
    be answered REPLAYED by the kernel `dec_validate_replay` (duplicate ⇒ error 17 unless retry ∈ 1..5). -/
theorem lost_reply_retry_is_exempted (P : Prims) (cf : Conf) (env : Env) (f : Fields) (uid gid : Nat)
    (S : DecSetup P cf env f uid gid) (rs : ReplaySet) (hk : specKey P cf f ∉ rs) (n : Nat) :
    (mungeDecode P cf env rs (credOf P cf f) [.p n]).1.err = 0 ∧
    (mungeDecode P cf env rs (credOf P cf f) [.p n]).2.trace.map (·.1) = [0, 1] ∧
    (∀ gsr uid gid : Int, (Munge.Gen.Dec.dec_validate_replay 0 gsr 0 uid gid 1).ret < 0 ∧
        (Munge.Gen.Dec.dec_validate_replay 0 gsr 0 uid gid 1).err = Munge.Gen.Dec.EMUNGE_CRED_REPLAYED) := by
  have hb := credOf_fits P cf env f uid gid S
  refine ⟨(retry_correct_decode P cf env f uid gid S rs hk [.p n] (by simp)).1, ?_, fun gsr u g => ?_⟩
  · -- attempt 1 (retry 0) fails at the client, attempt 2 (retry 1) succeeds
    have d0 := dec_daemon P cf env f uid gid S rs rs hk 0 (by omega) (.inl rfl)
    have hok := fun r (hr : r ≤ 5) => okMsg_RspOk P cf env f uid gid r S hr
    obtain ⟨a1, a2, a3⟩ := attempt_faulty P cf env rs 4 0 _ (.p n) hb (fun h => by cases h)
      (fun b h => by rw [d0] at h; cases h; exact decRsp_length_lt _ (hok 0 (by omega)))
    obtain ⟨b1, _⟩ := attempt_clean P cf env (attempt P cf env rs 4 0 (decBody (credOf P cf f)) (.p n)).rs 4 1 _ _ _ hb
      (congrArg Prod.fst (dec_daemon P cf env f uid gid S rs _ hk 1 (by omega)
        (a3.imp id fun h => ⟨h.trans (congrArg Prod.snd d0), Nat.le_refl 1⟩)))
      (clientRecv_decRsp _ (hok 1 (by omega)))
    obtain ⟨x1, _, r, _, x3⟩ := decode_xfer P cf env f uid gid S rs hk [.p n] (by simp)
    rw [mungeDecode_ok P cf env rs _ [.p n] _ x1 x3 rfl]
    rw [xfer_eq, List.cons_append, List.nil_append, xferLoop_cons _ _ _ _ _ _ _ _ (by omega)]
    dsimp only
    rw [a1, if_neg (by decide), if_pos ⟨a2, by omega, by decide⟩, xferLoop_cons _ _ _ _ _ _ _ _ (by omega)]
    rw [if_pos b1]
    rfl
  · have hr := (dec_validate_replay_dup 0 gsr u g).1.mpr (by omega)
    exact ⟨hr, (dec_validate_replay_dup 0 gsr u g).2 hr⟩

end Decode

section Encode
open Munge.Cred.B

/-- RETRY, ENCODE.  For every primitive table, configuration, environment, daemon state, every encode call the
    daemon accepts, and EVERY schedule of at most 4 faults: `munge_encode` returns SUCCESS and exactly the
    credential the daemon mints for this request over a clean connection (same salt, same second), and the
    daemon's replay state is untouched. -/
theorem retry_correct_encode (P : Prims) (cf : Conf) (env : Env) (m : Msg) (S : EncSetup P cf env m) (rs : ReplaySet)
    (sched : List Fault) (hlen : sched.length ≤ 4) :
    (mungeEncode P cf env rs m sched).1 = { err := 0, cred := some (encProcess P cf env (encReqMsg 0 m)).1.data } ∧
    (mungeEncode P cf env rs m sched).1 = (mungeEncode P cf env rs m []).1 ∧
    (mungeEncode P cf env rs m sched).2.rs = rs := by
  obtain ⟨e0, el⟩ := encOk_errorNum_dataLen P cf env m S
  have key : ∀ sch : List Fault, sch.length ≤ 4 →
      (mungeEncode P cf env rs m sch).1 = { err := 0, cred := some (encProcess P cf env (encReqMsg 0 m)).1.data } ∧
      (mungeEncode P cf env rs m sch).2.rs = rs := by
    intro sch hs
    obtain ⟨x1, x2, r, hr, x3⟩ := encode_xfer P cf env m S rs sch hs
    obtain ⟨uid, gid, hp, hv, hnow, he⟩ := encProcess_ok P cf env _ S.ok
    have hpos : (encProcess P cf env (encReqMsg 0 m)).1.dataLen ≠ 0 := by
      rw [el, he, encSuccess_eq]
      exact fun h => encCred_ne_nil P cf env _ uid gid (List.eq_nil_of_length_eq_zero h)
    rw [mungeEncode_ok P cf env rs m sch _ x1 x3 rfl hpos]
    refine ⟨?_, x2⟩
    show ({ err := ((encProcess P cf env (encReqMsg 0 m)).1.errorNum : Int),
            cred := some ((encProcess P cf env (encReqMsg 0 m)).1.data.take (encProcess P cf env (encReqMsg 0 m)).1.dataLen) } : EncResult) = _
    rw [e0, el, List.take_length]
    rfl
  exact ⟨(key sched hlen).1, (key sched hlen).1.trans (key [] (by simp)).1.symm, (key sched hlen).2⟩

end Encode

section RoundTrip
open Munge.Cred.B Munge.SpecV3

/-- ROUND TRIP UNDER FAULTS.  `munge_encode` over a connection that breaks up to four times, then `munge_decode`
    of the returned string over a connection that breaks up to four times (any faults, any offsets, any order):
    the decode returns SUCCESS with the byte-identical payload and the encoder's UID and GID.  `SD` states, for the
    fields `f` of the credential the daemon minted, what C01.roundtrip asks of the decoding side (authorised client,
    inside the validity window, daemon has not seen it, it fits the request limit); that `f` is well-formed is
    `Cred.B.encF_WF`. -/
theorem retry_roundtrip (P : Prims) (cf : Conf) (envE envD : Env) (call : Msg) (SE : EncSetup P cf envE call)
    (uid gid : Nat) (hpe : envE.peer = some (uid, gid)) (ha : cf.addr.length = 4) (duid dgid : Nat)
    (SD : DecSetup P cf envD
      (encF P cf envE (applyWrites (encReqMsg 0 call) (encValidate P cf (encReqMsg 0 call)) "m.") uid gid) duid dgid)
    (rsE rsD : ReplaySet)
    (hfresh : specKey P cf
      (encF P cf envE (applyWrites (encReqMsg 0 call) (encValidate P cf (encReqMsg 0 call)) "m.") uid gid) ∉ rsD)
    (sE sD : List Fault) (hE : sE.length ≤ 4) (hD : sD.length ≤ 4) :
    ∃ c, (mungeEncode P cf envE rsE call sE).1 = { err := 0, cred := some c } ∧
      (mungeDecode P cf envD rsD c sD).1.err = 0 ∧
      (mungeDecode P cf envD rsD c sD).1.len = call.dataLen ∧
      (mungeDecode P cf envD rsD c sD).1.data = (if call.dataLen > 0 then some (call.data.take call.dataLen) else none) ∧
      (mungeDecode P cf envD rsD c sD).1.uid = uid ∧ (mungeDecode P cf envD rsD c sD).1.gid = gid := by
  obtain ⟨uid', gid', hp', hv, hnow, he⟩ := encProcess_ok P cf envE _ SE.ok
  have hug : uid' = uid ∧ gid' = gid := by
    rw [hpe] at hp'; injection hp' with h; injection h with h1 h2; exact ⟨h1.symm, h2.symm⟩
  rw [hug.1, hug.2] at he
  have ld : (call.data.take call.dataLen).length = call.dataLen := List.length_take_of_le SE.call.data
  have lr : (call.realm.take call.realmLen).length = call.realmLen := List.length_take_of_le SE.call.realm
  have hc : (encProcess P cf envE (encReqMsg 0 call)).1.data =
      credOf P cf (encF P cf envE (applyWrites (encReqMsg 0 call) (encValidate P cf (encReqMsg 0 call)) "m.") uid gid) := by
    rw [he, encSuccess_eq]
    exact encCred_spec P cf envE _ uid gid ld lr ha
  refine ⟨_, (retry_correct_encode P cf envE call SE rsE sE hE).1, ?_⟩
  rw [hc]
  have hdec := retry_correct_decode P cf envD _ duid dgid SD rsD hfresh sD hD
  obtain ⟨d1, d2, d3, d4, d5, _⟩ := hdec
  refine ⟨d1, ?_, ?_, d4, d5⟩
  · rw [d2]; exact ld
  · rw [d3]
    show (if (call.data.take call.dataLen).length > 0 then some (call.data.take call.dataLen) else none) = _
    rw [ld]

end RoundTrip

/-- EXHAUSTED ⇒ SOCKET ERROR.  For EVERY request (any type, any body that passes the client's length gate), every
    daemon state, and every schedule whose first five entries are faults (`q`, `f`, `p` at any offsets):
    `m_msg_client_xfer` gives up after exactly five attempts with EMUNGE_SOCKET and hands no reply to its caller.
    (`hfit`: the daemon's replies are shorter than 4 GiB — with a reply that long `m_msg_send` fails in the C;
    the model's daemon does not bound its replies.) -/
theorem exhausted_is_socket_error (P : Prims) (cf : Conf) (env : Env) (rs : ReplaySet) (type : Nat) (body : Bytes)
    (hb : body.length ≤ 1048576)
    (hfit : ∀ rs' r b, (daemon P cf env rs' (reqBytes type r body) true).1 = some b → b.length < 4294967296 + 11)
    (sched : List Fault) (h5 : 5 ≤ sched.length) (hno : ∀ ft ∈ sched.take 5, ft ≠ .ok) :
    (xfer P cf env rs type body sched).err = EMUNGE_SOCKET ∧ (xfer P cf env rs type body sched).rsp = none ∧
    (xfer P cf env rs type body sched).trace.length = 5 := by
  rw [xfer_eq]
  exact xferLoop_exhausted P cf env type body hb hfit _ 0 4 rs [] [] rfl (by rw [List.length_append]; omega)
    (by rw [List.take_append_of_le_length h5]; exact hno)

/-- … hence `munge_decode` returns EMUNGE_SOCKET with EVERY output still at its initial value (NULL buffer,
    length 0, UID/GID sentinels, ctx fields -1 / 0): never a wrong or partial result — for any credential string -/
theorem exhausted_decode_untouched (P : Prims) (cf : Conf) (env : Env) (rs : ReplaySet) (cred : Bytes)
    (hb : (decBody cred).length ≤ 1048576)
    (hfit : ∀ rs' r b, (daemon P cf env rs' (reqBytes 4 r (decBody cred)) true).1 = some b → b.length < 4294967296 + 11)
    (sched : List Fault) (h5 : 5 ≤ sched.length) (hno : ∀ ft ∈ sched.take 5, ft ≠ .ok) :
    (mungeDecode P cf env rs cred sched).1 = { err := EMUNGE_SOCKET } := by
  obtain ⟨h1, _, _⟩ := exhausted_is_socket_error P cf env rs 4 (decBody cred) hb hfit sched h5 hno
  rw [mungeDecode_fail P cf env rs cred sched (by rw [h1]; decide), h1]

/-- … and `munge_encode` returns EMUNGE_SOCKET and a NULL credential — for any options and payload -/
theorem exhausted_encode_untouched (P : Prims) (cf : Conf) (env : Env) (rs : ReplaySet) (m : Msg)
    (hb : (encBody m).length ≤ 1048576)
    (hfit : ∀ rs' r b, (daemon P cf env rs' (reqBytes 2 r (encBody m)) true).1 = some b → b.length < 4294967296 + 11)
    (sched : List Fault) (h5 : 5 ≤ sched.length) (hno : ∀ ft ∈ sched.take 5, ft ≠ .ok) :
    (mungeEncode P cf env rs m sched).1 = { err := EMUNGE_SOCKET, cred := none } := by
  obtain ⟨h1, _, _⟩ := exhausted_is_socket_error P cf env rs 2 (encBody m) hb hfit sched h5 hno
  rw [mungeEncode_fail P cf env rs m sched (by rw [h1]; decide), h1]

section NonVacuity
open Munge.Cred.B Munge.SpecV3

/-! ### non-vacuity: the hypotheses are satisfiable and the scenarios occur (toy primitives, evaluated) -/
namespace Example
def cf : Conf := { macKey := [1, 2, 3, 4, 5, 6, 7, 8], dekKey := [9, 8, 7, 6, 5, 4, 3, 2] }
def envE : Env := { now := 1000000, peer := some (1000, 1000) }
def envD : Env := { now := 1000001, peer := some (7, 8) }
def call : Msg := { cipher := 0, mac := 2, zip := 0, ttl := 0, authUid := 4294967295, authGid := 4294967295,
                    dataLen := 2, data := [104, 105] }
def f : Fields := encF ToyPrims.prims cf envE (applyWrites (encReqMsg 0 call) (encValidate ToyPrims.prims cf (encReqMsg 0 call)) "m.") 1000 1000
def cred : Bytes := ((mungeEncode ToyPrims.prims cf envE [] call []).1.cred).getD []
end Example

set_option maxRecDepth 100000 in
/-- the hypotheses of `retry_correct_encode` hold for a concrete call -/
example : EncSetup ToyPrims.prims Example.cf Example.envE Example.call :=
  ⟨⟨by decide, by decide, by decide, by decide, by decide +kernel⟩, by decide +kernel, by decide +kernel⟩

set_option maxRecDepth 100000 in
/-- the hypotheses of `retry_correct_decode` hold for the credential that call yields -/
example : DecSetup ToyPrims.prims Example.cf Example.envD Example.f 7 8 ∧ specKey ToyPrims.prims Example.cf Example.f ∉ [] :=
  ⟨⟨ToyPrims.toy_laws,
    ⟨by decide +kernel, by decide +kernel, by decide +kernel, by decide +kernel, by decide +kernel, by decide +kernel,
     by decide +kernel, by decide +kernel, by decide +kernel⟩,
    rfl, by decide, by decide, by decide, by decide +kernel, by decide +kernel, rfl, by decide +kernel⟩, by simp⟩

set_option maxRecDepth 100000 in
/-- four faults of all three kinds, the reply of the first attempt lost after the daemon recorded the credential:
    SUCCESS with the payload; a fifth fault: EMUNGE_SOCKET and untouched outputs; the credential string is the
    reference credential of `f` -/
example :
    Example.cred = credOf ToyPrims.prims Example.cf Example.f ∧
    (mungeDecode ToyPrims.prims Example.cf Example.envD [] Example.cred [.p 30, .f, .q 12, .p 0]).1.err = 0 ∧
    (mungeDecode ToyPrims.prims Example.cf Example.envD [] Example.cred [.p 30, .f, .q 12, .p 0]).1.data = some [104, 105] ∧
    ((mungeDecode ToyPrims.prims Example.cf Example.envD [] Example.cred [.p 30, .f, .q 12, .p 0]).2.trace.map (·.1)) = [0, 1, 2, 3, 4] ∧
    (mungeDecode ToyPrims.prims Example.cf Example.envD [] Example.cred [.p 30, .f, .q 12, .p 0, .f]).1 = { err := 6 } := by
  decide +kernel

end NonVacuity

end Munge.C13
