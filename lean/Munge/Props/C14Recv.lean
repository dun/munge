import Munge.Gen.Msg
import Munge.Lemmas.Kernel
/-!
# C14 / C08 / C01 (receive side): `m_msg_recv` as translated from m_msg.c - the order of its checks and the length gate

The two timed reads, the two `_msg_unpack` calls, `malloc` and `free` are events; their results, `errno` after each read and
the header fields (`m->type`, `m->pkt_len`) the first unpack stores are inputs: the theorems hold for every peer behaviour.
-/
namespace Munge.C14Recv
open Munge.C Munge.Gen.Msg
open scoped Munge.Kernel

theorem ite_intro {c : Prop} [Decidable c] {P Q : Prop} (hp : c → P) (hq : ¬c → Q) : if c then P else Q := by
  split <;> simp_all

/-- **The length gate comes before the allocation and before any body byte is read**: with a positive limit, a header that
    announces more than the limit is answered `EMUNGE_BAD_LENGTH` (3) - nothing is allocated, the body is never read, whatever
    the header said otherwise.  (The comparison is the C's: `m->pkt_len` is a `uint32_t`, so a length ≥ 2^31 cannot pass as
    "negative".) -/
theorem length_gate_before_allocation (sd mr ty ml eh ht pl eb r2 u2 : Int)
    (hml : 0 < ml ∧ ml ≤ 2147483647) (hpl : ml < pl ∧ pl ≤ 4294967295) (hty : ty = 0 ∨ ht = ty) (heh : eh ≠ 110) :
    let o := m_msg_recv sd mr ty ml eh 11 ht pl 0 eb r2 u2
    o.ret = 3 ∧ o.count "malloc" = 0 ∧ o.count "fd_timed_read_n" = 1 ∧ o.written "m.pkt" = none := by
  have hgate : ml > 0 ∧ pl > wrapU32 ml := by unfold wrapU32; omega
  kcases m_msg_recv with [heh, hgate, Int.reduceLT, Int.reduceEq] <;> simp [wrapU32] at * <;> omega

/-- **What a successful receive did, in order**: a complete 11-byte header, its unpack, the expected type, the length gate,
    an allocation of exactly the announced length, a complete body of that length, its unpack with the announced type and
    length, and the packet buffer freed once; under a positive limit the announced length did not exceed it. -/
theorem recv_success_shape (sd mr ty ml eh r1 ht pl u1 eb r2 u2 : Int)
    (hml : 0 ≤ ml ∧ ml ≤ 2147483647) (hpl : 0 ≤ pl ∧ pl ≤ 4294967295) (hr2 : -2147483648 ≤ r2 ∧ r2 ≤ 2147483647) (hmr : 0 ≤ mr)
    (h : (m_msg_recv sd mr ty ml eh r1 ht pl u1 eb r2 u2).ret = 0) :
    (m_msg_recv sd mr ty ml eh r1 ht pl u1 eb r2 u2).events =
      [("fd_timed_read_n", [11]), ("_msg_unpack", [1, 11]), ("malloc", [pl]), ("fd_timed_read_n", [pl]),
       ("_msg_unpack", [ht, wrapS32 pl]), ("free:m.pkt", [])] ∧
    r1 = 11 ∧ u1 = 0 ∧ (ty ≠ 0 → ht = ty) ∧ (0 < ml → pl ≤ ml) ∧ mr ≠ 0 ∧ r2 = pl ∧ u2 = 0 := by
  kcases m_msg_recv <;> simp only [Int.reduceEq] at h <;> simp [wrapU32, wrapS32] at * <;> omega

/-- **Only four outcomes**: success, socket error, bad length, out of memory. -/
theorem recv_outcomes (sd mr ty ml eh r1 ht pl u1 eb r2 u2 : Int) :
    let r := (m_msg_recv sd mr ty ml eh r1 ht pl u1 eb r2 u2).ret
    r = 0 ∨ r = 6 ∨ r = 3 ∨ r = 5 := by
  kcases m_msg_recv <;> simp

/-- **An unexpected message type is refused before the gate and the allocation** (libmunge, which names the type it expects). -/
theorem unexpected_type_refused (sd mr ty ml eh ht pl eb r2 u2 : Int) (hty : ty ≠ 0 ∧ ht ≠ ty) (heh : eh ≠ 110) :
    let o := m_msg_recv sd mr ty ml eh 11 ht pl 0 eb r2 u2
    o.ret = 6 ∧ o.count "malloc" = 0 := by
  kcases m_msg_recv with [heh, hty.1, hty.2, Int.reduceLT, Int.reduceEq] <;> simp

/-! ## `m_msg_send` (C13, C01, C14) -/

/-- number of header packs (`_msg_pack (m, MUNGE_MSG_HDR, hdr, 11)`) among the events -/
def hdrPacks (o : KOut) : Int := ((o.events.filter (· == ("_msg_pack", [1, 11]))).length : Nat)

/-- **The header is packed afresh on every send - also when the packed body is reused** (a retried request is the same
    message object sent again with a new retry count in its header: the retry count reaches the wire because the 11 header
    bytes are rebuilt each time; the body, which does not contain it, may be cached).  Every successful send packs the
    header exactly once, immediately before the single write, and that write moved 11 + body-length bytes. -/
theorem header_packed_on_every_send (sd ct pp cpl pic mr ty ml rl rp rp2 ew rw : Int) (hty : ty ≠ 1)
    (h : (m_msg_send sd ct pp cpl pic mr ty ml rl rp rp2 ew rw).ret = 0) :
    hdrPacks (m_msg_send sd ct pp cpl pic mr ty ml rl rp rp2 ew rw) = 1 ∧
    (m_msg_send sd ct pp cpl pic mr ty ml rl rp rp2 ew rw).count "fd_timed_write_iov" = 1 ∧
    (m_msg_send sd ct pp cpl pic mr ty ml rl rp rp2 ew rw).events.getLast? = some ("fd_timed_write_iov", [2]) := by
  kcases m_msg_send <;> simp only [Int.reduceEq, *] at h <;> simp [hdrPacks, hty]

/-- **The send-side length gate**: with a positive limit, a message whose packed body exceeds it is not written at all -
    `EMUNGE_BAD_LENGTH`, no write (a payload too large to be carried gives a length error, never truncated data). -/
theorem send_length_gate (sd ct pp cpl pic mr ty ml rl rp rp2 ew rw : Int)
    (hml : 0 < ml ∧ ml ≤ 2147483647) (hnew : pp = 0) (hrl : ml < rl ∧ rl ≤ 2147483647) (hmr : mr ≠ 0) (hrp : rp = 0) :
    let o := m_msg_send sd ct pp cpl pic mr ty ml rl rp rp2 ew rw
    o.ret = 3 ∧ o.count "fd_timed_write_iov" = 0 := by
  have hgate : ml > 0 ∧ wrapU32 rl > wrapU32 ml := by unfold wrapU32; omega
  kcases m_msg_send with [hnew, hmr, hrp, hgate] <;> simp [wrapU32] at * <;> omega

/-- non-vacuity: a 20-byte DEC_REQ under the 1 MiB limit is received; a 2 MiB announcement is refused at the gate -/
example : (m_msg_recv 3 1 0 1048576 0 11 4 20 0 0 20 0).ret = 0 := by decide
example : (m_msg_recv 3 1 0 1048576 0 11 4 2097152 0 0 20 0).ret = 3 := by decide
example : (m_msg_recv 3 1 0 1048576 0 11 4 4294967295 0 0 20 0).ret = 3 := by decide

end Munge.C14Recv
