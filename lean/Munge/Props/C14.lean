import Munge.Lemmas.Wire
/-
C14 — the client–daemon message codec is lossless and never trusts a length.

Property theorems only; the generic lemmas (about arbitrary descriptor lists) live in
`Munge/Lemmas/Wire.lean`.  The descriptor lists `lengthTable`, `packTable`, `unpackTable`, the
header constants, the exit codes, the `m_msg_recv` chain and its length gate are `Munge.Gen.Wire.*`,
regenerated from `src/libcommon/m_msg.c` on every run; each theorem below ends in a `decide` of a
decidable side condition on that generated data, so it is re-checked against what the C says now.

`mok : Nat → Bool` is "does `malloc (n)` succeed"; the safety theorems hold for every `mok`.
-/
namespace Munge.C14
open Munge.Wire Munge.Gen.Wire Munge.C

/-! ### the three field lists describe the same messages -/

/-- what a link says about the wire: an integer field is (name, width) — a header local is named by
    its declared type, as `_msg_length` does with `sizeof (m_msg_magic_t)` —, a variable-length
    field is (its length member, 0); `_alloc`s and interposed tests say nothing -/
def sig : Fld → Option (String × Nat)
  | .int f w => some ((localTypes.lookup f).getD f, w)
  | .bytes _ l _ => some (l, 0)
  | .var l => some (l, 0)
  | _ => none

def sameFields (_t : Nat) (L P U : List Fld) : Bool :=
  decide (L.filterMap sig = P.filterMap sig) && decide (P.filterMap sig = U.filterMap sig) &&
  decide (core P = core U)

/-- For each of the 6 message types, `_msg_length`, `_msg_pack` and `_msg_unpack` name the same
    fields in the same order (and pack and unpack move the same members); every enumerator of
    `enum m_msg_type` except UNDEF has its three lists. -/
theorem lists_agree :
    unpackTable.length = 6 ∧
    lengthTable.map (·.1) = packTable.map (·.1) ∧ packTable.map (·.1) = unpackTable.map (·.1) ∧
    (∀ e ∈ msgTypes, e.2 ≠ MUNGE_MSG_UNDEF → (lookup unpackTable e.2).isSome = true) ∧
    ∀ t L P U, lookup lengthTable t = some L → lookup packTable t = some P → lookup unpackTable t = some U →
      L.filterMap sig = P.filterMap sig ∧ P.filterMap sig = U.filterMap sig ∧ core P = core U := by
  refine ⟨by decide, by decide, by decide, by decide, ?_⟩
  intro t L P U hL hP hU
  have h : tablesAll sameFields = true := by decide
  obtain ⟨L', P', hL', hP', hp⟩ := tablesAll_spec h hU
  rw [hL] at hL'; rw [hP] at hP'
  cases hL'; cases hP'
  simp only [sameFields, Bool.and_eq_true, decide_eq_true_eq] at hp
  exact ⟨hp.1.1, hp.1.2, hp.2⟩

/-! ### lossless -/

/-- A message a sender may hold for type `t`: the type has lists, and (`WellFormedFor`) every
    integer member fits its width, every length is below 2^31 and does not exceed what its member
    holds, no interposed test of the pack or unpack chain fires, the total size fits an `int`, and
    the two header locals (modelled as pseudo-members) hold the values `_msg_pack` gives them. -/
def WellFormed (t : Nat) (m : Msg) : Prop :=
  ∃ P U, lookup packTable t = some P ∧ lookup unpackTable t = some U ∧ WellFormedFor P U m

/-- For every message type and every well-formed message `m`: the length computed by
    `_msg_length` equals the number of bytes `_msg_pack` produces into a buffer of that length,
    and `_msg_unpack` of those bytes (also when followed by arbitrary trailing bytes, and whatever
    the receiving message `m0` held before) succeeds with every field of the type equal to `m`'s
    (`got`: integer members equal; variable-length members equal over their length). -/
theorem unpack_pack (mok : Nat → Bool) (hmok : ∀ n, mok n = true) (t : Nat) (m m0 : Msg)
    (hwf : WellFormed t m) (extra : List UInt8) :
    ∃ bytes st U, lookup unpackTable t = some U ∧
      pack t m (length t m) = (EMUNGE_SUCCESS, m, bytes) ∧
      length t m = (bytes.length : Nat) ∧
      unpack mok t m0 (bytes ++ extra) ((bytes ++ extra).length : Nat) = (EMUNGE_SUCCESS, st) ∧
      ∀ fld ∈ U, got m st.m fld := by
  obtain ⟨P, U, hP, hU, hw⟩ := hwf
  have h : tablesAll typeOk = true := by decide
  obtain ⟨L, P', hL, hP', hp⟩ := tablesAll_spec h hU
  rw [hP] at hP'; cases hP'
  obtain ⟨h1, h2, st, h3, h4⟩ := roundtrip_gen mok hmok t L P U hL hP hU hp m m0 hw extra
  have hpo : packOk = EMUNGE_SUCCESS := by decide
  have huo : unpackOk = EMUNGE_SUCCESS := by decide
  exact ⟨chunks m P, st, U, hU, by rw [h2, hpo], h1, by rw [h3, huo], h4⟩

/-! ### never trusts a length -/

/-- For EVERY type code `t` (the daemon unpacks whatever type the client's header names), EVERY
    byte string `b`, every previous content `m` of the message object and every behaviour of
    `malloc`: `_msg_unpack (m, t, b, |b|)` reads only indices below `|b|`, writes every
    variable-length field only inside its destination (the heap block `_alloc` made, or the
    in-struct member), and ends in success or in a non-success code with an error recorded.
    Holds for the header (`t = MUNGE_MSG_HDR`) as for the bodies.

    Proof: every generated unpack list is `guarded` (each heap copy-in is preceded by the matching
    `_alloc` on the same unchanged length member; each copy-in to an in-struct member is preceded
    by a test bounding its length by `sizeof` of the member) — decided on the generated lists —
    and `guarded` lists are safe (`unpack_safe_of_guarded`).  On a tree where the DEC_RSP chain copies
    `addr_len` bytes into the 4-byte `addr` without a test this `decide` fails: then e.g.
    `unpack _ 5 _ [0,0,0,0,0,0,0,0,0,0,5,1,2,3,4,5] 16` has `oob = true` (defect F2). -/
theorem unpack_safe (mok : Nat → Bool) (t : Nat) (m : Msg) (b : List UInt8) :
    let r := unpack mok t m b (b.length : Nat)
    r.2.oob b.length = false ∧
    (∀ rd ∈ r.2.reads, rd.1 + rd.2 ≤ b.length) ∧
    (∀ w ∈ r.2.writes, w.2.1 ≤ w.2.2) ∧
    (r.1 = EMUNGE_SUCCESS ∨ (r.1 ≠ EMUNGE_SUCCESS ∧ r.2.m.int "error_num" ≠ 0)) := by
  have hg : ∀ e ∈ unpackTable, guarded e.2 = true := by decide
  have hc : codesOk = true := by decide
  have h := unpack_safe_of_guarded hg mok t m b b.length b.length (Int.le_refl _)
  exact ⟨h.oob, h.1, h.2,
    (unpack_cases hc mok t m b b.length).imp_left (fun ⟨_, _, _, _, _, e⟩ => congrArg Prod.fst e)⟩

/-- The same when the packet length handed to `_msg_unpack` is smaller than the buffer (as in
    `m_msg_recv`, where a `pkt_len ≥ 2^31` becomes a negative `int`): still no access outside. -/
theorem unpack_safe_srclen (mok : Nat → Bool) (t : Nat) (m : Msg) (b : List UInt8) (srclen : Int)
    (h : srclen ≤ (b.length : Nat)) :
    (unpack mok t m b srclen).2.oob b.length = false := by
  have hg : ∀ e ∈ unpackTable, guarded e.2 = true := by decide
  exact (unpack_safe_of_guarded hg mok t m b srclen b.length h).oob

/-- A header is accepted only with the right magic and version: whenever `_msg_unpack` of type
    MUNGE_MSG_HDR succeeds, the 4-byte magic and the 1-byte version it read equal MUNGE_MSG_MAGIC and
    MUNGE_MSG_VERSION (and these are the values `_msg_pack` writes). -/
theorem header_strict (mok : Nat → Bool) (m : Msg) (b : List UInt8) (srclen : Int)
    (h : (unpack mok MUNGE_MSG_HDR m b srclen).1 = EMUNGE_SUCCESS) :
    (unpack mok MUNGE_MSG_HDR m b srclen).2.m.int "local.magic" = MAGIC ∧
    (unpack mok MUNGE_MSG_HDR m b srclen).2.m.int "local.version" = VERSION ∧
    packInits = [("local.magic", MAGIC), ("local.version", VERSION)] := by
  have hc : codesOk = true := by decide
  have ht : MUNGE_MSG_HDR = postCheckType := by decide
  have h1 : ("local.magic", MAGIC, EMUNGE_SOCKET, EMUNGE_SOCKET) ∈ postChecks := by decide
  have h2 : ("local.version", VERSION, EMUNGE_SOCKET, EMUNGE_SOCKET) ∈ postChecks := by decide
  obtain ⟨_, st, _, _, hp, e⟩ := (unpack_cases hc mok MUNGE_MSG_HDR m b srclen).resolve_right (fun h' => h'.1 h)
  rw [e]
  exact ⟨hp ht _ h1, hp ht _ h2, by decide⟩

/-! ### `m_msg_recv`: the length gate comes first -/

/-- the order of the `else if` chain of `m_msg_recv` that `Munge.Wire.recv` follows is the order in
    the C source, and the gate's exit is (`m_msg_set_err` EMUNGE_SOCKET, `return` EMUNGE_BAD_LENGTH) -/
theorem recv_chain_order :
    recvChain.map (·.1) = ["read_hdr", "timeout", "short_hdr", "unpack_hdr", "type_check", "gate", "malloc",
      "read_body", "timeout", "short_body", "unpack_body"] ∧
    chainExit "gate" = (EMUNGE_SOCKET, EMUNGE_BAD_LENGTH) ∧ recvHdrLen = HDR_SIZE := by decide

/-- With a positive `maxlen`: (1) whenever `m_msg_recv` allocates a body buffer, reads past the
    header or unpacks a body, the header's declared body length was at most `maxlen`; (2) a valid
    header of an acceptable type that declares more than `maxlen` yields EMUNGE_BAD_LENGTH with
    nothing allocated and nothing read beyond the header. -/
theorem recv_gate (mok : Nat → Bool) (m : Msg) (type : Nat) (maxlen : Int) (s : List UInt8)
    (h0 : 0 < maxlen) (h1 : maxlen < 2147483648) :
    let r := recv mok m type maxlen s
    let hdr := unpack mok MUNGE_MSG_HDR m (s.take recvHdrLen) recvHdrLen
    ((r.pktAllocs ≠ [] ∨ recvHdrLen < r.consumed ∨ r.body.isSome = true) → (hdr.2.m.int "pkt_len" : Int) ≤ maxlen) ∧
    (recvHdrLen ≤ s.length → hdr.1 = EMUNGE_SUCCESS → (type = MUNGE_MSG_UNDEF ∨ hdr.2.m.int "type" = type) →
      (hdr.2.m.int "pkt_len" : Int) > maxlen →
      r.rc = EMUNGE_BAD_LENGTH ∧ r.pktAllocs = [] ∧ r.consumed = recvHdrLen ∧ r.body = none ∧ r.pktSet = false) := by
  have hexit : (chainExit "gate").2 = EMUNGE_BAD_LENGTH := by decide
  have hgate : ∀ pl : Nat, recvGate maxlen pl ↔ (pl : Int) > maxlen := fun pl => by
    unfold recvGate wrapU32; constructor <;> intro h <;> omega
  have hlen : (s.take recvHdrLen).length = min recvHdrLen s.length := List.length_take
  generalize hh : unpack mok MUNGE_MSG_HDR m (s.take recvHdrLen) recvHdrLen = hdr
  obtain ⟨rc, st⟩ := hdr
  dsimp only
  generalize hr : recv mok m type maxlen s = r
  unfold recv at hr
  simp only [hh] at hr
  -- the four exits of the `else if` chain up to the gate, then everything behind it
  revert hr
  refine ite_eq_elim (fun c1 hr => ?_) fun c1 => ite_eq_elim (fun c2 hr => ?_) fun c2 =>
    ite_eq_elim (fun c3 hr => ?_) fun c3 => ite_eq_elim (fun c4 hr => ?_) fun c4 _ => ?_
  · subst hr; exact ⟨fun h => by simp at h; omega, fun hl => absurd (by omega) c1⟩
  · subst hr; exact ⟨by simp, fun _ h => absurd h c2⟩
  · subst hr; exact ⟨by simp, fun _ _ h => (h.elim c3.1 c3.2).elim⟩
  · subst hr; exact ⟨by simp, fun _ _ _ _ => by simp [hexit]⟩
  · have hle : (st.m.int "pkt_len" : Int) ≤ maxlen := Int.not_lt.mp fun h => c4 ((hgate _).mpr h)
    exact ⟨fun _ => hle, fun _ _ _ h => absurd h (by omega)⟩

/-! ### `m_msg_send`: nothing leaves when the body is longer than `maxlen` -/

/-- With a positive `maxlen`, a message whose computed body length exceeds it is not written to the
    socket at all (and the call does not report success). -/
theorem send_gate (mok : Nat → Bool) (m : Msg) (t : Nat) (maxlen : Int) (h0 : 0 < maxlen)
    (h1 : maxlen < 2147483648) (hlen : length t m > maxlen) :
    (send mok m t maxlen).2.2 = [] ∧ (send mok m t maxlen).1 ≠ EMUNGE_SUCCESS := by
  have hex : sendGateExit.2 ≠ EMUNGE_SUCCESS := by decide
  have hsn : EMUNGE_SNAFU ≠ EMUNGE_SUCCESS ∧ EMUNGE_NO_MEMORY ≠ EMUNGE_SUCCESS := by decide
  generalize hm' : (m.setInt "pkt_len" (length t m).toNat).setInt "type" t = m'
  have hok := pack_ok_msg (by decide) t m' (length t m)
  generalize hr : send mok m t maxlen = r
  unfold send at hr
  simp only [hm'] at hr
  generalize pack t m' (length t m) = x at hok hr
  revert hr
  refine ite_eq_elim (fun _ hr => ?_) fun _ => ite_eq_elim (fun _ hr => ?_) fun _ =>
    ite_eq_elim (fun he hr => ?_) fun he => ite_eq_elim (fun _ hr => ?_) fun c _ => ?_
  · subst hr; exact ⟨rfl, hsn.1⟩
  · subst hr; exact ⟨rfl, hsn.2⟩
  · subst hr; exact ⟨rfl, he⟩
  · subst hr; exact ⟨rfl, hex⟩
  · -- the body was packed, so the message is still `m'`, whose `pkt_len` is the computed length: the gate fires
    refine absurd ?_ c
    rw [hok (Decidable.not_not.mp he), ← hm']
    unfold sendGate wrapU32
    simp only [setInt_int, String.reduceEq, ↓reduceIte]
    omega

/-! ### `m_msg_set_err` (used by the credential model): the first error wins -/

/-- once an error is recorded, later `m_msg_set_err` calls change neither code nor string, and
    every call returns -1 -/
theorem set_err_first_wins (m : Msg) (e1 e2 : Nat) (s1 s2 : Option (List UInt8))
    (hm : m.int "error_num" = EMUNGE_SUCCESS) (h1 : e1 % 256 ≠ 0) :
    let m1 := (setErr m e1 s1).1
    m1.int "error_num" = e1 % 256 ∧ (setErr m1 e2 s2).1.int "error_num" = e1 % 256 ∧
    (setErr m1 e2 s2).1.buf "error_str" = m1.buf "error_str" ∧
    (setErr m e1 s1).2 = -1 ∧ (setErr m1 e2 s2).2 = -1 := by
  have h0 : EMUNGE_SUCCESS = 0 := by decide
  have he1 : e1 ≠ EMUNGE_SUCCESS := fun h => h1 (by rw [h, h0])
  have hm1 : (setErr m e1 s1).1.int "error_num" = e1 % 256 := by
    rw [setErr_int m e1 s1 (by decide), if_pos ⟨hm, he1⟩, if_pos rfl]
  have h2 : setErr (setErr m e1 s1).1 e2 s2 = ((setErr m e1 s1).1, -1) :=
    if_neg fun h => h1 (by rw [← hm1, h.1, h0])
  refine ⟨hm1, by rw [h2]; exact hm1, by rw [h2], ?_, by rw [h2]⟩
  unfold setErr; split <;> rfl

/-! ### `m_msg_reset` (used by the credential model): what is cleared, to what -/

/-- After `m_msg_reset` — whatever the message held, and whether or not its blocks were copies —
    cipher, mac, zip are 0 (NONE), realm and data are gone (length 0, pointer NULL), ttl is 0
    (MUNGE_TTL_DEFAULT), addr_len, time0, time1 are 0 and the four credential uid/gid members are
    0xffffffff (MUNGE_UID_ANY / MUNGE_GID_ANY).  Read off the kernel translated from the C source. -/
theorem reset_clears (m : Msg) :
    (∀ f ∈ ["cipher", "mac", "zip", "realm_len", "ttl", "addr_len", "time0", "time1", "data_len"],
      (reset m).int f = 0) ∧
    (∀ f ∈ ["cred_uid", "cred_gid", "auth_uid", "auth_gid"], (reset m).int f = 4294967295) ∧
    (reset m).buf "realm_str" = none ∧ (reset m).buf "data" = none := by
  -- `if (p) { …; p = NULL; }` leaves NULL behind either way, so what the kernel writes does not depend on its inputs
  have hnull : ∀ p : Int, (if p ≠ 0 then 0 else p) = 0 := fun p => by split <;> omega
  have key : ∀ a b c d : Int,
      (∀ f ∈ ["cipher", "mac", "zip", "realm_len", "ttl", "addr_len", "time0", "time1", "data_len"],
        lastInt f (m_msg_reset a b c d).writes = some 0) ∧
      (∀ f ∈ ["cred_uid", "cred_gid", "auth_uid", "auth_gid"],
        lastInt f (m_msg_reset a b c d).writes = some 4294967295) ∧
      nullW "realm_str" (m_msg_reset a b c d).writes = true ∧ nullW "data" (m_msg_reset a b c d).writes = true := by
    intro a b c d
    simp only [m_msg_reset, hnull]
    decide
  unfold reset
  obtain ⟨h1, h2, h3, h4⟩ := key (ptrVal m "realm_str") (m.int "realm_is_copy") (ptrVal m "data") (m.int "data_is_copy")
  exact ⟨fun f hf => by rw [foldl_applyWrite_int, h1 f hf]; rfl, fun f hf => by rw [foldl_applyWrite_int, h2 f hf]; rfl,
    by rw [foldl_applyWrite_buf, h3]; rfl, by rw [foldl_applyWrite_buf, h4]; rfl⟩

/-! ### non-vacuity -/

/-- a DEC_REQ carrying two bytes -/
def demo : Msg := (Msg.fresh.setInt "data_len" 2).setBuf "data" (some [65, 66])

instance (m : Msg) (fld : Fld) : Decidable (fldOk m fld) := by
  cases fld <;> simp only [fldOk] <;> infer_instance
instance (m : Msg) (fld : Fld) : Decidable (ufldOk m fld) := by
  cases fld <;> simp only [ufldOk] <;> infer_instance

example : WellFormed MUNGE_MSG_DEC_REQ (withLocals demo) :=
  ⟨_, _, rfl, rfl, by decide, by decide, by decide, by decide⟩
example : length MUNGE_MSG_DEC_REQ demo = 6 ∧
    (pack MUNGE_MSG_DEC_REQ demo 6).2.2 = [0, 0, 0, 2, 65, 66] := by decide
example : (unpack (fun _ => true) MUNGE_MSG_DEC_REQ Msg.fresh [0, 0, 0, 2, 65, 66, 99] 7).1 = EMUNGE_SUCCESS ∧
    (unpack (fun _ => true) MUNGE_MSG_DEC_REQ Msg.fresh [0, 0, 0, 2, 65, 66, 99] 7).2.m.buf "data" = some [65, 66] := by
  decide
/-- a length the packet cannot satisfy is an error, a length ≥ 2^31 is refused before any allocation -/
example : (unpack (fun _ => true) MUNGE_MSG_DEC_REQ Msg.fresh [0, 0, 0, 3, 65, 66] 6).1 = EMUNGE_SNAFU ∧
    (unpack (fun _ => true) MUNGE_MSG_DEC_REQ Msg.fresh [128, 0, 0, 0, 65] 5).1 = EMUNGE_NO_MEMORY ∧
    (unpack (fun _ => true) MUNGE_MSG_DEC_REQ Msg.fresh [128, 0, 0, 0, 65] 5).2.allocs = [] := by decide
/-- the `guarded` predicate has teeth: a chain that copies `addr_len` bytes into the 4-byte `addr`
    without a test is rejected, and the interpreter then really leaves the destination (F2) -/
example : guarded [.int "addr_len" 1, .bytes "addr" "addr_len" (.fixed 4)] = false ∧
    guarded [.int "addr_len" 1, .guard "addr_len" .gt 4, .bytes "addr" "addr_len" (.fixed 4)] = true ∧
    (urun (fun _ => true) [5, 1, 2, 3, 4, 5] 6 [.int "addr_len" 1, .bytes "addr" "addr_len" (.fixed 4)]
      (USt.init Msg.fresh)).2.oob 6 = true := by decide
/-- the receive gate fires on a valid header that declares one byte too many -/
example : (recv (fun _ => true) Msg.fresh MUNGE_MSG_UNDEF 16 [0, 96, 109, 75, 4, 4, 0, 0, 0, 0, 17, 1, 2, 3]).rc
    = EMUNGE_BAD_LENGTH := by decide

end Munge.C14
