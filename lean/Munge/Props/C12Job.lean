import Munge.Gen.Job
import Munge.Lemmas.Kernel
/-!
# C12, acceptor side: one trip of the accept loop of `job_accept` (src/munged/job.c)

`Munge.Gen.Job.job_accept_iter` is the body of `while (!got_terminate) { … }`, translated from clang's AST on every run
(tools/gen/g_job.py): inputs are the variables that live across trips and the results of the calls the body makes, the
events are the calls in order, `ret` says whether the trip ended in `continue` (`CONT`) or ran to the end (`NEXT`).
The errno values are those of the platform the check runs on (Linux: EINTR 4, ENOMEM 12, ENFILE 23, EMFILE 24,
ECONNABORTED 103, ENOBUFS 105), as they appear in the AST.

"Every request munged accepts is handed to exactly one worker thread exactly once" starts here: the theorems say that an
accepted connection is queued exactly once or released exactly once, and that descriptor / memory exhaustion ALWAYS waits
for the backlog (`work_wait`) before `accept` is called again - on every trip, not only when the rate-limited log line is
written.  The worker side (`work.c`) is Props/C12.lean.
-/
namespace Munge.C12Job
open Munge.C Munge.Gen.Job
open scoped Munge.Kernel

/-- Whatever happens, a trip calls `accept` exactly once. -/
theorem one_accept_per_trip (gr e lle llt ra rt rn rc rb rq : Int) :
    (job_accept_iter gr e lle llt ra rt rn rc rb rq).count "accept" = 1 := by
  kcases job_accept_iter <;> simp

/-- EMFILE / ENFILE / ENOBUFS / ENOMEM from `accept`: the acceptor waits for the backlog exactly once, queues nothing, and
    the wait is the last thing it does before it goes back to `accept` - whatever the log rate limiter (last_log_time,
    last_log_errno, the clock) decides. -/
theorem exhaustion_waits_for_backlog (gr e lle llt ra rt rn rc rb rq : Int)
    (hacc : ra < 0) (he : e = 24 ∨ e = 23 ∨ e = 105 ∨ e = 12) :
    (job_accept_iter gr e lle llt ra rt rn rc rb rq).ret = CONT ∧
    (job_accept_iter gr e lle llt ra rt rn rc rb rq).count "work_wait" = 1 ∧
    (job_accept_iter gr e lle llt ra rt rn rc rb rq).count "work_queue" = 0 ∧
    (job_accept_iter gr e lle llt ra rt rn rc rb rq).events.getLast? = some ("work_wait", []) := by
  rcases he with rfl | rfl | rfl | rfl <;> kcases job_accept_iter with [hacc, Int.reduceEq] <;> simp [CONT]

/-- ECONNABORTED / EINTR: the trip just goes round again: nothing is queued, closed, destroyed or waited for. -/
theorem transient_errors_retry (gr e lle llt ra rt rn rc rb rq : Int)
    (hacc : ra < 0) (he : e = 103 ∨ e = 4) :
    (job_accept_iter gr e lle llt ra rt rn rc rb rq).ret = CONT ∧
    (job_accept_iter gr e lle llt ra rt rn rc rb rq).count "work_wait" = 0 ∧
    (job_accept_iter gr e lle llt ra rt rn rc rb rq).count "work_queue" = 0 ∧
    (job_accept_iter gr e lle llt ra rt rn rc rb rq).count "close" = 0 ∧
    (job_accept_iter gr e lle llt ra rt rn rc rb rq).count "m_msg_destroy" = 0 := by
  rcases he with rfl | rfl <;> kcases job_accept_iter with [hacc, Int.reduceEq] <;> simp [CONT]

/-- An accepted connection whose set-up succeeds is queued exactly once and not touched again by the acceptor. -/
theorem accepted_is_queued_once (gr e lle llt ra rt rn rc rb rq : Int)
    (hacc : 0 ≤ ra) (hn : 0 ≤ rn) (hc : rc = 0) (hb : rb = 0) (hq : 0 ≤ rq) :
    (job_accept_iter gr e lle llt ra rt rn rc rb rq).ret = NEXT ∧
    (job_accept_iter gr e lle llt ra rt rn rc rb rq).count "work_queue" = 1 ∧
    (job_accept_iter gr e lle llt ra rt rn rc rb rq).count "close" = 0 ∧
    (job_accept_iter gr e lle llt ra rt rn rc rb rq).count "m_msg_destroy" = 0 ∧
    (job_accept_iter gr e lle llt ra rt rn rc rb rq).count "work_wait" = 0 := by
  kcases job_accept_iter with [Int.not_lt.mpr hacc, Int.not_lt.mpr hn, Int.not_lt.mpr hq, hc, hb] <;> simp [NEXT] at *

/-- An accepted connection is handed over at most once; if it is NOT handed over successfully it is released exactly once
    (descriptor closed or message destroyed) - never twice, never leaked; if it is handed over, the acceptor does not
    touch it again. -/
theorem accepted_released_or_queued (gr e lle llt ra rt rn rc rb rq : Int) (hacc : 0 ≤ ra) :
    (job_accept_iter gr e lle llt ra rt rn rc rb rq).count "work_queue" ≤ 1 ∧
    (((job_accept_iter gr e lle llt ra rt rn rc rb rq).count "work_queue" = 1 ∧ 0 ≤ rq ∧
       (job_accept_iter gr e lle llt ra rt rn rc rb rq).count "close" + (job_accept_iter gr e lle llt ra rt rn rc rb rq).count "m_msg_destroy" = 0) ∨
     ((job_accept_iter gr e lle llt ra rt rn rc rb rq).count "close" + (job_accept_iter gr e lle llt ra rt rn rc rb rq).count "m_msg_destroy" = 1 ∧
       ((job_accept_iter gr e lle llt ra rt rn rc rb rq).count "work_queue" = 1 → rq < 0))) := by
  kcases job_accept_iter with [Int.not_lt.mpr hacc] <;> simp <;> omega

/-- non-vacuity: the second exhaustion within the log interval (nothing is logged) still waits -/
example : (job_accept_iter 0 24 24 1000 (-1) 1010 0 0 0 0).events = [("accept", []), ("work_wait", [])] := by decide

end Munge.C12Job
