import Munge.Gen.Dec
import Munge.Lemmas.ConfReads
import Munge.Lemmas.Kernel
/-
C06 — Credentials are valid exactly inside their time window; TTLs are bounded.

Every theorem is about `Munge.Gen.Dec.dec_validate_time` / `enc_validate_msg` /
`dec_process_msg`, which tools/gen/g_dec.py re-translates from src/munged/dec.c and
enc.c on every run (clang's typed AST: the `uint32_t` arithmetic and the widening to
`time_t` appear exactly as the compiler sees them).  Proof recipe: path by path (`kcases`),
unfold the C wrap functions, `omega`.
-/
namespace Munge.C06
open Munge.C Munge.Gen.Dec
open scoped Munge.Kernel

/-- the TTL the decoding daemon honours: the credential's TTL capped by `--max-ttl` -/
def cap (ttl maxTtl : Int) : Int := if ttl > maxTtl then maxTtl else ttl
/-- allowed backwards skew: the capped TTL, or 1 s when skew tolerance is compiled out -/
def skew (ttl maxTtl gotSkew : Int) : Int := if gotSkew ≠ 0 then cap ttl maxTtl else 1

/-- ranges of the quantities as C holds them: three `uint32_t`, `--max-ttl` in 1..MUNGE_MAXIMUM_TTL,
    a 1-bit flag -/
def Ranges (ttl t0 t1 maxTtl gotSkew : Int) : Prop :=
  0 ≤ ttl ∧ ttl < 4294967296 ∧ 0 ≤ t0 ∧ t0 < 4294967296 ∧ 0 ≤ t1 ∧ t1 < 4294967296 ∧
  1 ≤ maxTtl ∧ maxTtl ≤ MUNGE_MAXIMUM_TTL ∧ 0 ≤ gotSkew ∧ gotSkew ≤ 1

/-- Decoding is accepted ONLY inside the window `t0 - skew ≤ t1 ≤ t0 + ttl'` over the integers —
    unconditionally, i.e. also where the 32-bit arithmetic wraps (there the code only rejects more). -/
theorem ok_only_in_window (ttl t0 t1 maxTtl gotSkew : Int) (h : Ranges ttl t0 t1 maxTtl gotSkew)
    (hok : (dec_validate_time ttl t0 t1 maxTtl gotSkew).ret = 0) :
    t0 - skew ttl maxTtl gotSkew ≤ t1 ∧ t1 ≤ t0 + cap ttl maxTtl := by
  unfold Ranges MUNGE_MAXIMUM_TTL at h
  kcases dec_validate_time <;> simp at hok
  unfold skew cap wrapU32 wrapS32 at *
  omega

/-- No credential is honoured for longer than the decoding daemon's `--max-ttl`, whatever TTL the
    credential carries (e.g. one minted by a daemon with a larger maximum). -/
theorem never_longer_than_max_ttl (ttl t0 t1 maxTtl gotSkew : Int) (h : Ranges ttl t0 t1 maxTtl gotSkew)
    (hok : (dec_validate_time ttl t0 t1 maxTtl gotSkew).ret = 0) : t1 ≤ t0 + maxTtl := by
  have := (ok_only_in_window ttl t0 t1 maxTtl gotSkew h hok).2
  unfold cap at this; split at this <;> omega

/-- Contrapositive: outside the window the kernel always rejects, wrap-around or not. -/
theorem outside_window_rejected (ttl t0 t1 maxTtl gotSkew : Int) (h : Ranges ttl t0 t1 maxTtl gotSkew)
    (hout : t1 < t0 - skew ttl maxTtl gotSkew ∨ t1 > t0 + cap ttl maxTtl) :
    (dec_validate_time ttl t0 t1 maxTtl gotSkew).ret ≠ 0 := by
  intro hok
  have := ok_only_in_window ttl t0 t1 maxTtl gotSkew h hok
  omega

/-- Where no 32-bit wrap occurs (encode time not within `skew` seconds of 1970-01-01 nor within
    `ttl'` seconds of 2106-02-07) the verdict is EXACTLY the window, both boundaries inclusive:
    inside ⇒ accepted, no error; later ⇒ EXPIRED; earlier ⇒ REWOUND. -/
theorem window_exact (ttl t0 t1 maxTtl gotSkew : Int) (h : Ranges ttl t0 t1 maxTtl gotSkew)
    (hlo : skew ttl maxTtl gotSkew ≤ t0) (hhi : t0 + cap ttl maxTtl < 4294967296) :
    let r := dec_validate_time ttl t0 t1 maxTtl gotSkew
    (t0 - skew ttl maxTtl gotSkew ≤ t1 ∧ t1 ≤ t0 + cap ttl maxTtl → r.ret = 0 ∧ r.err = 0) ∧
    (t1 > t0 + cap ttl maxTtl → r.ret = -1 ∧ r.err = EMUNGE_CRED_EXPIRED) ∧
    (t1 < t0 - skew ttl maxTtl gotSkew → r.ret = -1 ∧ r.err = EMUNGE_CRED_REWOUND) := by
  unfold Ranges MUNGE_MAXIMUM_TTL at h
  kcases dec_validate_time <;> simp [EMUNGE_CRED_EXPIRED, EMUNGE_CRED_REWOUND] <;> unfold skew cap wrapU32 wrapS32 at * <;> omega

/-- On decode the TTL field of the reply is the capped one: never above the decoder's maximum. -/
theorem decode_caps_ttl (ttl t0 t1 maxTtl gotSkew : Int) (h : Ranges ttl t0 t1 maxTtl gotSkew) :
    (dec_validate_time ttl t0 t1 maxTtl gotSkew).get "c.msg.ttl" ttl = cap ttl maxTtl := by
  unfold Ranges MUNGE_MAXIMUM_TTL at h
  kcases dec_validate_time <;> simp [cap, wrapU32] <;> omega

/-- On encode: TTL 0 selects the daemon default; any other TTL above the maximum (including the
    `MUNGE_TTL_MAXIMUM` sentinel 0xFFFFFFFF) is clamped to it; otherwise it is unchanged.  For every
    cipher/MAC/zip request and every primitive table. -/
theorem encode_ttl (cipher mac zip dl ttl dc dm dz defTtl maxTtl : Int) (f1 f2 f3 f4 f5 : Int → Int)
    (h : 0 ≤ ttl ∧ ttl < 4294967296 ∧ 1 ≤ maxTtl ∧ maxTtl ≤ MUNGE_MAXIMUM_TTL ∧ 0 ≤ defTtl ∧ defTtl ≤ MUNGE_MAXIMUM_TTL)
    (hok : (enc_validate_msg cipher mac zip dl ttl dc dm dz defTtl maxTtl f1 f2 f3 f4 f5).ret = 0) :
    (enc_validate_msg cipher mac zip dl ttl dc dm dz defTtl maxTtl f1 f2 f3 f4 f5).get "m.ttl" ttl =
      if ttl = 0 then defTtl else if ttl > maxTtl then maxTtl else ttl := by
  unfold MUNGE_MAXIMUM_TTL at h
  have e1 : wrapU32 maxTtl = maxTtl := by unfold wrapU32; omega
  have e2 : wrapU32 defTtl = defTtl := by unfold wrapU32; omega
  kcases enc_validate_msg <;> simp [e1, e2] at hok ⊢

/-- Consequently an encoded TTL is always within 1..max(default, maximum); with the shipped default
    (300 ≤ maximum) it is within 1..maximum unless `--max-ttl` was lowered below the default. -/
theorem encode_ttl_bounded (cipher mac zip dl ttl dc dm dz defTtl maxTtl : Int) (f1 f2 f3 f4 f5 : Int → Int)
    (h : 0 ≤ ttl ∧ ttl < 4294967296 ∧ 1 ≤ maxTtl ∧ maxTtl ≤ MUNGE_MAXIMUM_TTL ∧ 1 ≤ defTtl ∧ defTtl ≤ maxTtl)
    (hok : (enc_validate_msg cipher mac zip dl ttl dc dm dz defTtl maxTtl f1 f2 f3 f4 f5).ret = 0) :
    let t := (enc_validate_msg cipher mac zip dl ttl dc dm dz defTtl maxTtl f1 f2 f3 f4 f5).get "m.ttl" ttl
    1 ≤ t ∧ t ≤ maxTtl := by
  have := encode_ttl cipher mac zip dl ttl dc dm dz defTtl maxTtl f1 f2 f3 f4 f5 (by omega) hok
  simp only [this]
  split <;> (try split) <;> omega

/-- EXPIRED, REWOUND (and REPLAYED) are "soft": `dec_process_msg` does not reset the message for them,
    so the authenticated payload and metadata are still returned; for every other failure the message
    is reset exactly once before it is sent. -/
theorem soft_errors_keep_payload
    (e r1 r2 r3 r4 r5 r6 r7 r8 r9 r10 r11 r12 r13 r14 rs ri : Int) :
    let out := dec_process_msg e r2 ri r1 r3 r4 r5 r6 r7 r8 r9 r10 r11 r12 r13 r14 rs
    ((e = EMUNGE_CRED_EXPIRED ∨ e = EMUNGE_CRED_REWOUND ∨ e = EMUNGE_CRED_REPLAYED) →
        out.count "m_msg_reset" = 0) ∧
    (out.ret ≠ 0 → rs = 0 → e ≠ EMUNGE_CRED_EXPIRED → e ≠ EMUNGE_CRED_REWOUND → e ≠ EMUNGE_CRED_REPLAYED →
        out.count "m_msg_reset" = 1) ∧
    out.count "m_msg_send" = 1 := by
  unfold EMUNGE_CRED_EXPIRED EMUNGE_CRED_REWOUND EMUNGE_CRED_REPLAYED
  -- the counts are over closed event lists: decided first, so that `simp` need not walk the list at every leaf
  kcases dec_process_msg <;> simp +decide only [KOut.count] <;> simp <;> omega

/-- **The clock decides every presentation of an out-of-window credential.**  In `dec_process_msg` (translated from
    dec.c) the time check runs before the replay stage - the only stage that records a credential - and when it refuses
    (EXPIRED / REWOUND, `r13 < 0`) the replay stage is not run at all and nothing is withdrawn: presenting a credential
    too early or too late leaves the replay cache untouched, so a second late presentation is EXPIRED again (not
    REPLAYED) and a credential first presented too early is still valid once inside its window. -/
theorem out_of_window_is_not_recorded
    (e r1 r2 r3 r4 r5 r6 r7 r8 r9 r10 r11 r12 r13 r14 rs ri : Int) (htime : r13 < 0) :
    let out := dec_process_msg e r2 ri r1 r3 r4 r5 r6 r7 r8 r9 r10 r11 r12 r13 r14 rs
    out.count "dec_validate_replay" = 0 ∧ out.count "replay_remove" = 0 ∧ out.ret = -1 := by
  kcases dec_process_msg with [htime] <;> decide

/-- … and the time check is reached only by a credential that passed the MAC and the authorisation check, exactly once. -/
theorem time_check_runs_once_after_auth
    (e r1 r2 r3 r4 r5 r6 r7 r8 r9 r10 r11 r12 r13 r14 rs ri : Int) :
    let out := dec_process_msg e r2 ri r1 r3 r4 r5 r6 r7 r8 r9 r10 r11 r12 r13 r14 rs
    out.count "dec_validate_time" ≤ 1 ∧
    (out.count "dec_validate_replay" = 1 → out.count "dec_validate_time" = 1 ∧ r13 ≥ 0 ∧ r12 ≥ 0) := by
  kcases dec_process_msg <;> simp +decide only [KOut.count] <;> simp <;> omega

/-! ### non-vacuity: concrete points of the window, evaluated on the generated kernel -/

example : Ranges 300 1000000 1000300 3600 1 := by unfold Ranges MUNGE_MAXIMUM_TTL; omega
example : (dec_validate_time 300 1000000 1000300 3600 1).ret = 0 := by decide
example : (dec_validate_time 300 1000000 1000301 3600 1).err = EMUNGE_CRED_EXPIRED := by decide
example : (dec_validate_time 300 1000000 999699 3600 1).err = EMUNGE_CRED_REWOUND := by decide
example : (dec_validate_time 300 1000000 999700 3600 1).ret = 0 := by decide
example : (dec_validate_time 4294967295 1000000 1003601 3600 1).err = EMUNGE_CRED_EXPIRED := by decide
/-- wrap region (encode time 10 s after the epoch, ttl 300): fails closed as REWOUND -/
example : (dec_validate_time 300 10 20 3600 1).ret = -1 := by decide

/-- The pipeline's source files consult exactly the configuration fields that the model's `Conf` carries (table regenerated
    from the source on every run): the theorems above, stated for every `cf`, cover every configuration switch that can
    influence the validity window.  A new `conf->…` dependence in enc.c / dec.c / cred.c / m_msg.c breaks this. -/
theorem conf_fields_as_modelled : Munge.Gen.Dec.confReads = Munge.Cred.confAsModelled :=
  Munge.Cred.conf_reads_as_modelled

end Munge.C06
