import Munge.Lemmas.Path
/-
C16 — Start-up refuses insecure key, path and file settings; created files are safe.

Every decision procedure mentioned
below (`dirCheck`, `conf_open_keyfile`, `random_read_seed`, `random_read_entropy_from_file`, `lock_stat`,
`write_pidfile`, `open_logfile`, `sock_create`, the `*_creates` / `*_umaskAfter` tables) is `Munge.Gen.Path.*`,
regenerated from `src/munged/{path,conf,random,lock,munged}.c` on every run, so each theorem is re-checked
against what the C source says now.  The vocabulary of the statements (`IsDir`, `groupW`, `sticky`, …) is written
here independently, as arithmetic on `st_mode`, not with the generated masks.
-/
namespace Munge.C16
open Munge.C Munge.Path Munge.Gen.Path
open scoped Munge.Kernel

/-- the file-type field of `st_mode` (`st_mode >> 12`) -/
def fileType (m : Int) : Int := m / 4096 % 16
/-- directory: `0040000` -/
def IsDir (m : Int) : Prop := fileType m = 4
/-- regular file: `0100000` -/
def IsReg (m : Int) : Prop := fileType m = 8
/-- symbolic link: `0120000` -/
def IsLnk (m : Int) : Prop := fileType m = 10
/-- group read `0040`, group write `0020`, other read `0004`, other write `0002`, sticky `01000` -/
def groupR (m : Int) : Prop := m / 32 % 2 = 1
def groupW (m : Int) : Prop := m / 16 % 2 = 1
def otherR (m : Int) : Prop := m / 4 % 2 = 1
def otherW (m : Int) : Prop := m / 2 % 2 = 1
def sticky (m : Int) : Prop := m / 512 % 2 = 1
/-- bit 0 of the flags argument: the directory holds the log file -/
def ignoreGroupWrite (flags : Int) : Prop := flags % 2 = 1
/-- value of `_path_trusted_gid` when no `--trusted-group` was given: `(gid_t) -1` -/
def noTrustedGroup : Int := 4294967295

/-- The statement's condition on one directory: owned by root or the effective user; not group-writable without
    the sticky bit (tolerated for the trusted group and for log directories); not world-writable without it. -/
structure DirSecure (flags tgid euid : Int) (s : Stat) : Prop where
  owner : s.uid = 0 ∨ s.uid = euid
  group : groupW s.mode → sticky s.mode ∨ ignoreGroupWrite flags ∨ (tgid ≠ noTrustedGroup ∧ s.gid = tgid)
  world : otherW s.mode → sticky s.mode

/-- The statement's condition on the key file as `lstat`/`stat` see it: it exists, is a regular file, the name
    is not a symbolic link, the owner is the effective user, and group and other can neither read nor write. -/
structure KeyFileOk (euid : Int) (v : FileView) : Prop where
  notLink : ¬ ∃ l, v.l = some l ∧ IsLnk l.mode
  ok : ∃ s, v.s = some s ∧ IsReg s.mode ∧ s.uid = euid ∧
    ¬ groupR s.mode ∧ ¬ groupW s.mode ∧ ¬ otherR s.mode ∧ ¬ otherW s.mode

/-- the probed `S_I*` macros are the POSIX/Linux values the vocabulary above is written in -/
theorem platform_constants :
    S_IFMT = 0o170000 ∧ S_IFDIR = 0o040000 ∧ S_IFREG = 0o100000 ∧ S_IFLNK = 0o120000 ∧ S_ISVTX = 0o1000 ∧
    S_IWUSR = 0o200 ∧ S_IRGRP = 0o040 ∧ S_IWGRP = 0o020 ∧ S_IROTH = 0o004 ∧ S_IWOTH = 0o002 ∧
    GID_SENTINEL = noTrustedGroup ∧ PATH_SECURITY_NO_FLAGS = 0 ∧ PATH_SECURITY_IGNORE_GROUP_WRITE = 1 := by
  decide

/-- The generated per-directory test of `path_is_secure`'s loop body says "continue" (2) exactly for a directory
    satisfying the statement's condition, "insecure" (0) exactly for a directory violating it, and "error" (-1)
    exactly for a non-directory. -/
theorem dir_secure_spec (flags tgid euid : Int) (s : Stat) (hm : 0 ≤ s.mode) (hf : 0 ≤ flags) :
    let r := (dirCheck flags tgid euid 0 s.mode s.uid s.gid).ret
    (r = 2 ↔ IsDir s.mode ∧ DirSecure flags tgid euid s) ∧
    (r = 0 ↔ IsDir s.mode ∧ ¬ DirSecure flags tgid euid s) ∧
    (r = -1 ↔ ¬ IsDir s.mode) := by
  intro r
  have hr : r = (dirCheck flags tgid euid 0 s.mode s.uid s.gid).ret := rfl
  have hiff : DirSecure flags tgid euid s ↔ _ ∧ _ ∧ _ := ⟨fun h => ⟨h.1, h.2, h.3⟩, fun h => ⟨h.1, h.2.1, h.2.2⟩⟩
  rw [hiff]
  unfold dirCheck at hr
  simp only [apply_ite KOut.ret, band_ifdir _ hm, band_1 _ hf, band_16 _ hm, band_512 _ hm, band_2 _ hm, ne_eq,
    Decidable.not_not, Int.lt_irrefl, if_false] at hr
  unfold IsDir fileType groupW otherW sticky ignoreGroupWrite noTrustedGroup
  -- `hr` is now the kernel's if-tree over the atoms of the statement (`s.mode / 16 % 2 = 1`, `s.uid = euid`, …)
  grind

/-- a directory that cannot be `lstat`ed is an error, never "secure" -/
theorem dir_unstatable (flags tgid euid rc m u g : Int) (h : rc < 0) :
    (dirCheck flags tgid euid rc m u g).ret = -1 := by
  unfold dirCheck
  simp only [apply_ite KOut.ret]
  omega

/-- the per-directory test never answers 1 ("secure"): 1 is only returned after the loop has run out of ancestors -/
theorem dir_check_never_one (flags tgid euid rc m u g : Int) : (dirCheck flags tgid euid rc m u g).ret ≠ 1 := by
  kcases dirCheck <;> simp

/-- the per-directory check applied to the `lstat` view of a path succeeds exactly for an existing directory
    satisfying the statement's condition, and answers "insecure" exactly for an existing directory violating it -/
theorem dir_check_on_env (flags tgid euid : Int) (env : Env) (a : List Char)
    (hmodes : ∀ p s, env p = some s → 0 ≤ s.mode) (hf : 0 ≤ flags) :
    ((checkDir flags tgid euid env a).ret = 2 ↔ ∃ s, env a = some s ∧ IsDir s.mode ∧ DirSecure flags tgid euid s) ∧
    ((checkDir flags tgid euid env a).ret = 0 ↔ ∃ s, env a = some s ∧ IsDir s.mode ∧ ¬ DirSecure flags tgid euid s) := by
  unfold checkDir
  cases h : env a with
  | none => simp [dir_unstatable flags tgid euid (-1) 0 0 0 (by omega)]
  | some s =>
    have hs := dir_secure_spec flags tgid euid s (hmodes a s h) hf
    simpa using ⟨hs.1, hs.2.1⟩

/-- `path_is_secure` on a canonical directory path `/c₁/…/cₙ` of ANY depth returns 1 exactly when the directory
    and EVERY ancestor up to and including `/` exists, is a directory and satisfies the statement's condition
    (`cs.take k` for `k = 0 … n` enumerates `/`, `/c₁`, …, `/c₁/…/cₙ`).  The string loop that strips one component
    per iteration is hand-modelled (`Path.walk`, tied to path.c by the generator's shape obligations and by the
    correspondence stream); the per-directory test is the generated `dirCheck`. -/
theorem path_secure_all_ancestors (flags tgid euid : Int) (env : Env) (cs : List (List Char)) (hcs : Comps cs)
    (hleaf : ∃ s, env (render cs) = some s ∧ IsDir s.mode)
    (hmodes : ∀ p s, env p = some s → 0 ≤ s.mode) (hf : 0 ≤ flags) :
    (isSecure flags tgid euid env (some (render cs))).rc = 1 ↔
      ∀ k, k ≤ cs.length → ∃ s, env (render (cs.take k)) = some s ∧ IsDir s.mode ∧ DirSecure flags tgid euid s := by
  obtain ⟨s0, hs0, hd0⟩ := hleaf
  rw [isSecure_render _ _ _ _ _ hcs s0 hs0 (hmodes _ _ hs0) hd0,
    firstFail_one_iff _ _ _ _ _ (fun a => by unfold checkDir; split <;> exact dir_check_never_one _ _ _ _ _ _ _)]
  simp only [mem_ancestors]
  constructor
  · intro h k hk
    exact (dir_check_on_env _ _ _ _ _ hmodes hf).1.1 (h _ ⟨k, hk, rfl⟩)
  · rintro h a ⟨k, hk, rfl⟩
    exact (dir_check_on_env _ _ _ _ _ hmodes hf).1.2 (h k hk)

/-- … and it never answers "secure" by accident: a result other than 1 is 0 or -1, and 0 ("insecure", the case
    `--force` may override) is returned only when some ancestor is a directory violating the condition. -/
theorem path_insecure_witness (flags tgid euid : Int) (env : Env) (cs : List (List Char)) (hcs : Comps cs)
    (hleaf : ∃ s, env (render cs) = some s ∧ IsDir s.mode)
    (hmodes : ∀ p s, env p = some s → 0 ≤ s.mode) (hf : 0 ≤ flags)
    (h0 : (isSecure flags tgid euid env (some (render cs))).rc = 0) :
    ∃ k, k ≤ cs.length ∧ ∃ s, env (render (cs.take k)) = some s ∧ IsDir s.mode ∧ ¬ DirSecure flags tgid euid s := by
  obtain ⟨s0, hs0, hd0⟩ := hleaf
  rw [isSecure_render _ _ _ _ _ hcs s0 hs0 (hmodes _ _ hs0) hd0] at h0
  obtain ⟨a, ha, hr⟩ := firstFail_zero _ _ _ _ _ h0
  obtain ⟨k, hk, rfl⟩ := (mem_ancestors _ _).1 ha
  exact ⟨k, hk, (dir_check_on_env _ _ _ _ _ hmodes hf).2.1 hr⟩

/-- The log-file site consults `path_is_secure` only with `PATH_SECURITY_IGNORE_GROUP_WRITE` (group-writable log
    directories are tolerated); the key, seed, pid and socket sites only with `PATH_SECURITY_NO_FLAGS`. -/
theorem site_flags (sec sec' : Int → Int) :
    (sec 1 = sec' 1 → ∀ a b c d e f g h i j k l m n,
      open_logfile a b c d e f g h i j k l m n sec = open_logfile a b c d e f g h i j k l m n sec') ∧
    (sec 0 = sec' 0 →
      (∀ a b c d e f g h i j k, conf_open_keyfile a b c d e f g h i j k sec = conf_open_keyfile a b c d e f g h i j k sec') ∧
      (∀ a b c d e f rd, random_read_entropy_from_file a b c d e f sec rd = random_read_entropy_from_file a b c d e f sec' rd) ∧
      (∀ a b c d e f g h i j, write_pidfile a b c d e f g h i j sec = write_pidfile a b c d e f g h i j sec') ∧
      (∀ a b c d e f g h i j k l m n o, sock_create a b c d e f g h i j k l m n o sec = sock_create a b c d e f g h i j k l m n o sec')) := by
  refine ⟨fun h => ?_, fun h => ⟨?_, ?_, ?_, ?_⟩⟩
  · intros; unfold open_logfile; simp only [h]
  · intros; unfold conf_open_keyfile; simp only [h]
  · intros; unfold random_read_entropy_from_file; simp only [h]
  · intros; unfold write_pidfile; simp only [h]
  · intros; unfold sock_create; simp only [h]

/-- Start-up hands each checked function the configured file name and the configured `--force` flag (the argument
    expressions at the call sites in `main`, `create_subkeys`, `random_init`, `random_fini`, `sock_create`, extracted
    from the AST), so the per-function theorems below speak about what the daemon actually runs. -/
theorem call_sites : ∀ c ∈ callSites, c.2.1 = c.2.2 := by
  decide

/-- The exact survival condition of `_conf_open_keyfile` in arithmetic form (`lrc/lmode` from `lstat`, `src/smode/suid`
    from `stat`, `sec 0` the answer of `path_is_secure` on the key's directory): without `--force` every condition of
    the statement is required; with `--force` only existence, file type, an error-free directory check and `open`. -/
theorem keyfile_decision (force name0 lrc lmode src smode suid euid fd : Int) (sec : Int → Int)
    (hl : 0 ≤ lmode) (hs : 0 ≤ smode) (hname : name0 ≠ 0) (hsec : sec 0 ≤ 1) :
    (force = 0 →
      (fatal (conf_open_keyfile 1 name0 force lrc lmode src smode suid euid 0 fd sec) = false ↔
        (¬ src < 0 ∧ smode / 4096 % 16 = 8 ∧ ¬ (lrc = 0 ∧ lmode / 4096 % 16 = 10) ∧ suid = euid ∧
         smode / 16 % 4 = 0 ∧ smode / 2 % 4 = 0 ∧ sec 0 = 1 ∧ 0 ≤ fd))) ∧
    (force ≠ 0 →
      (fatal (conf_open_keyfile 1 name0 force lrc lmode src smode suid euid 0 fd sec) = false ↔
        (¬ src < 0 ∧ smode / 4096 % 16 = 8 ∧ 0 ≤ sec 0 ∧ 0 ≤ fd))) := by
  unfold conf_open_keyfile
  simp only [apply_ite fatal]
  simp only [fatal, List.any_cons, List.any_nil, String.reduceBEq, Bool.or_false, ite_true_eq_false,
    ne_eq, band_iflnk _ hl, band_ifreg _ hs, band_48 _ hs, band_6 _ hs]
  grind

/-- Without `--force`, `_conf_open_keyfile` survives (reaches no fatal `log_err`) exactly when the key file is a
    regular, non-symlinked file owned by the effective user without group/other read or write permission, its
    directory path is secure (`path_is_secure … = 1`, characterised by `path_secure_all_ancestors`), and it can be
    opened.  `sec` is the answer of `path_is_secure` on the key's directory. -/
theorem keyfile_spec (euid name0 : Int) (v : FileView) (sec : Int → Int) (fd : Int)
    (hname : name0 ≠ 0) (hl : 0 ≤ modeOf v.l) (hs : 0 ≤ modeOf v.s) (hsec : sec 0 ≤ 1) :
    fatal (keyfile 0 euid name0 v sec fd) = false ↔ KeyFileOk euid v ∧ sec 0 = 1 ∧ 0 ≤ fd := by
  unfold keyfile
  have hk : _ ↔ KeyFileOk euid v := (fileOk_iff euid v.l v.s).symm.trans ⟨fun h => ⟨h.1, h.2⟩, fun h => ⟨h.1, h.2⟩⟩
  rw [(keyfile_decision 0 name0 _ _ _ _ _ euid fd sec hl hs hname hsec).1 rfl, ← hk]
  omega

/-- With `--force` the ownership, permission, symlink and directory conditions only warn; what stays fatal is a
    missing key, a key that is not a regular file, an error (as opposed to "insecure") from the directory check, and
    a failing `open`. -/
theorem keyfile_forced (force euid name0 : Int) (v : FileView) (sec : Int → Int) (fd : Int) (hforce : force ≠ 0)
    (hname : name0 ≠ 0) (hl : 0 ≤ modeOf v.l) (hs : 0 ≤ modeOf v.s) (hsec : sec 0 ≤ 1) :
    fatal (keyfile force euid name0 v sec fd) = false ↔
      (∃ s, v.s = some s ∧ IsReg s.mode) ∧ 0 ≤ sec 0 ∧ 0 ≤ fd := by
  unfold keyfile
  rw [(keyfile_decision force name0 _ _ _ _ _ euid fd sec hl hs hname hsec).2 hforce]
  rcases v with ⟨l, s⟩
  cases s with
  | none => simp [rcOf]
  | some st => simp [rcOf, modeOf, IsReg, fileType]

/-- Without `--force`, whenever `path_is_secure` does not answer 1 for the directory of the pid file, the socket,
    the log file or the seed file (with the flag shown in `site_flags`), start-up dies in a fatal `log_err`:
    none of these functions returns normally.  (Key file: `keyfile_spec`.) -/
theorem refuse_without_force (sec : Int → Int) :
    (sec 0 ≤ 0 → ∀ u p p0 dn ur ue fo fp fc, fatal (write_pidfile u p p0 0 dn ur ue fo fp fc sec) = true) ∧
    (sec 0 ≤ 0 → ∀ u c sn sn0 lb dn ac ur ue sfd sl sz brc lrc,
      fatal (sock_create u c sn sn0 0 lb dn ac ur ue sfd sl sz brc lrc sec) = true) ∧
    (sec 1 ≤ 0 → ∀ u lf lf0 pr lrc lm src sen sm su eu dn fo,
      fatal (open_logfile u lf lf0 0 pr lrc lm src sen sm su eu dn fo sec) = true) ∧
    (sec 0 ≤ 0 → ∀ p p0 dn ur ue rd, p ≠ 0 → p0 ≠ 0 →
      fatal (random_read_entropy_from_file p p0 0 dn ur ue sec rd) = true) := by
  refine ⟨fun h => ?_, fun h => ?_, fun h => ?_, fun h => ?_⟩
  · intros; kcases write_pidfile <;> simp [fatal] <;> omega
  · intros; kcases sock_create <;> simp [fatal, wrapS32] at * <;> omega
  · intros; kcases open_logfile <;> simp [fatal] <;> omega
  · intro p p0 dn ur ue rd hp hp0
    kcases random_read_entropy_from_file <;> simp [fatal, wrapS32] at * <;> omega

/-- For all 512 inherited umasks: the socket is created 0777 and the lock file 0200 exactly; the pid, log and seed
    files are never more permissive than 0644, 0640 and 0600; each function creates exactly one file; and each
    leaves the process umask as it found it.  (`*_creates` / `*_umaskAfter` are generated from the `umask (…)` and
    `open`/`fopen`/`bind` calls of the C functions; `createdMode` is `mode & ~umask` with 0666 for `fopen` and 0777
    for `bind`.) -/
theorem modes : ∀ u : Fin 512,
    sockModes (u.val : Int) = [0o777] ∧
    lockModes (u.val : Int) = [0o200] ∧
    ((pidModes (u.val : Int)).length = 1 ∧ ∀ m ∈ pidModes (u.val : Int), within m 0o644) ∧
    ((logModes (u.val : Int)).length = 1 ∧ ∀ m ∈ logModes (u.val : Int), within m 0o640) ∧
    ((seedModes (u.val : Int)).length = 1 ∧ ∀ m ∈ seedModes (u.val : Int), within m 0o600) ∧
    sock_create_umaskAfter (u.val : Int) = [(u.val : Int)] ∧
    lock_create_umaskAfter (u.val : Int) = [(u.val : Int)] ∧
    write_pidfile_umaskAfter (u.val : Int) = [(u.val : Int)] ∧
    open_logfile_umaskAfter (u.val : Int) = [(u.val : Int)] ∧
    random_write_seed_umaskAfter (u.val : Int) = [(u.val : Int)] := by
  decide +kernel

/-- The seed is written to a FRESH file: whatever sits at the seed path by then (a file of another owner or mode planted while
    the daemon ran, a symbolic link) is unlinked immediately before the creating `open`, for every input - so the mode
    argument of that `open` (bounded by `modes` above) is what the seed file gets, and no link is followed. -/
theorem seed_written_fresh (u nb ur eur fd nl nw n cr : Int) :
    (random_write_seed u nb ur eur fd nl nw n cr).events.take 2 = [("unlink", []), ("open", [0o600, u])] := by
  unfold random_write_seed
  split <;> rfl

/-- A lock file that already exists is only accepted if it is a regular file with permission bits exactly 0200
    owned by the effective user: `_lock_stat` is fatal otherwise (with or without `--force`), … -/
theorem lock_exact (frc fmode fuid euid : Int) (hm : 0 ≤ fmode) :
    fatal (lock_stat frc fmode fuid euid) = false ↔
      0 ≤ frc ∧ IsReg fmode ∧ fmode % 4096 = 0o200 ∧ fuid = euid := by
  unfold lock_stat
  simp only [apply_ite fatal]
  simp only [fatal, List.any_cons, List.any_nil, String.reduceBEq, Bool.or_false, ite_true_eq_false,
    Decidable.not_not, band_ifreg _ hm, band_4095 _ hm]
  unfold IsReg fileType
  grind

/-- … and `lock_create` runs that check on every path on which the lock file was opened. -/
theorem lock_checked (u c f ofd ur ue crc fd ls lp st : Int) (hfd : 0 ≤ fd) (hc : c ≠ 0) (hclose : ofd < 0 ∨ 0 ≤ crc) :
    (lock_create u c f ofd ur ue crc fd ls lp st).calls "_lock_stat" = true := by
  kcases lock_create <;> simp <;> omega

/-- the statement's condition on an existing seed file: regular, not a symlink, owned by the effective user, no
    group/other read or write permission (`l` = `lstat` of the name, `f` = `fstat` of the opened descriptor) -/
structure SeedFileOk (euid : Int) (l f : Option Stat) : Prop where
  notLink : ¬ ∃ s, l = some s ∧ IsLnk s.mode
  ok : ∃ s, f = some s ∧ IsReg s.mode ∧ s.uid = euid ∧
    ¬ groupR s.mode ∧ ¬ groupW s.mode ∧ ¬ otherR s.mode ∧ ¬ otherW s.mode

/-- `_random_read_seed` reaches its read loop exactly when every vetting condition holds (not a symlink, `fstat` succeeds,
    regular file, owned by the effective user, no group/other read or write bits); otherwise it returns -1 without
    reading (arithmetic form; `fd ≥ 0`: the file exists and could be opened). -/
theorem seed_vetting (nb lrc lmode fd en frc fmode fuid euid left : Int) (hl : 0 ≤ lmode) (hf : 0 ≤ fmode)
    (hfd : 0 ≤ fd) (o : KOut) (ho : o = random_read_seed nb lrc lmode fd en frc fmode fuid euid left 0 0 0) :
    ((¬ (lrc = 0 ∧ lmode / 4096 % 16 = 10) ∧ 0 ≤ frc ∧ fmode / 4096 % 16 = 8 ∧ fuid = euid ∧ fmode / 16 % 4 = 0 ∧
        fmode / 2 % 4 = 0) → o.calls "loop" = true ∧ o.ret = wrapS32 (nb - left)) ∧
    (¬ (¬ (lrc = 0 ∧ lmode / 4096 % 16 = 10) ∧ 0 ≤ frc ∧ fmode / 4096 % 16 = 8 ∧ fuid = euid ∧ fmode / 16 % 4 = 0 ∧
        fmode / 2 % 4 = 0) → o.calls "loop" = false ∧ o.ret = -1) := by
  subst ho
  unfold random_read_seed
  simp only [apply_ite (KOut.calls · "loop"), apply_ite KOut.ret]
  simp only [KOut.calls, List.any_cons, List.any_nil, String.reduceBEq, Bool.or_false, ite_false_eq_true,
    ite_false_eq_false, ne_eq, band_iflnk _ hl, band_ifreg _ hf, band_48 _ hf, band_6 _ hf]
  generalize wrapS32 (nb - left) = w
  grind

/-- the entropy pool is fed (`_random_add`) only inside the read loop of `_random_read_seed` -/
theorem pool_fed_only_in_loop :
    "_random_add" ∉ random_read_seed_outsideLoopCalls ∧
    ∃ calls, random_read_seed_loopCalls = [(0, calls)] ∧ "_random_add" ∈ calls := by
  refine ⟨by decide, _, rfl, by decide⟩

/-- An existing seed file (it can be opened) that fails ANY of the vetting conditions is not read into the pool
    — the read loop, the only place that feeds the pool, is not reached and `_random_read_seed` returns -1 — and
    `_random_read_entropy_from_file`, unless it died on an insecure directory, then `unlink`s it and reports no
    entropy from it.  A file meeting all conditions is read and is not unlinked. -/
theorem bad_seed_removed (force euid name0 : Int) (l f : Option Stat) (fd en avail : Int) (sec : Int → Int)
    (urc uen : Int) (hname : name0 ≠ 0) (hfd : 0 ≤ fd) (hl : 0 ≤ modeOf l) (hf : 0 ≤ modeOf f)
    (hav : 0 ≤ avail) (hsec : sec 0 ≤ 1) :
    let rd := fun nb => readSeed euid l fd en f avail nb
    let o := seedFromFile force name0 sec rd urc uen
    (¬ SeedFileOk euid l f →
      (∀ nb, (rd nb).calls "loop" = false ∧ (rd nb).ret = -1 ∧ seedBytesAdded (rd nb) = 0) ∧
      (fatal o = false → o.calls "unlink" = true ∧ o.ret ≤ 0)) ∧
    (SeedFileOk euid l f →
      (∀ nb, 0 ≤ nb → nb < 2147483648 → (rd nb).calls "loop" = true ∧ (rd nb).ret = (if avail < nb then avail else nb)) ∧
      o.calls "unlink" = false) := by
  intro rd o
  have harith : _ ↔ SeedFileOk euid l f := (fileOk_iff euid l f).symm.trans ⟨fun h => ⟨h.1, h.2⟩, fun h => ⟨h.1, h.2⟩⟩
  have hsv := fun nb => seed_vetting nb (rcOf l) (modeOf l) fd en (rcOf f) (modeOf f) (uidOf f) euid
    (nb - (if avail < nb then avail else nb)) hl hf hfd (rd nb) rfl
  obtain ⟨hu1, hu2⟩ := entropy_file_unlink name0 force urc uen sec (fun nb => (rd nb).ret) hname
  rw [← harith]
  constructor
  · intro hbad
    have hr := fun nb => (hsv nb).2 hbad
    refine ⟨fun nb => ⟨(hr nb).1, (hr nb).2, ?_⟩, hu1 (by rw [(hr 1024).2]; omega)⟩
    have := (hr nb).1
    simp only [KOut.calls] at this
    simp [seedBytesAdded, this]
  · intro hgood
    have hr : ∀ nb, 0 ≤ nb → nb < 2147483648 →
        (rd nb).calls "loop" = true ∧ (rd nb).ret = (if avail < nb then avail else nb) := fun nb h0 h1 => by
      obtain ⟨h2, h3⟩ := (hsv nb).1 hgood
      exact ⟨h2, by rw [h3]; unfold wrapS32; omega⟩
    exact ⟨hr, hu2 (by rw [(hr 1024 (by omega) (by omega)).2]; omega)⟩

/-- `/etc/munge` with root-owned 0755 ancestors is secure; making `/etc` group-writable is refused; a trusted group
    or the sticky bit makes it acceptable again; the refusal is found at depth, not only at the leaf -/
private def demoEnv (etcMode etcGid : Int) : Env := fun p =>
  if p = "/".toList then some ⟨0o040755, 0, 0⟩
  else if p = "/etc".toList then some ⟨etcMode, 0, etcGid⟩
  else if p = "/etc/munge".toList then some ⟨0o040700, 1000, 1000⟩
  else none
example : (isSecure 0 noTrustedGroup 1000 (demoEnv 0o040755 0) (some "/etc/munge".toList)).rc = 1 := by decide
example : (isSecure 0 noTrustedGroup 1000 (demoEnv 0o040775 0) (some "/etc/munge".toList)).rc = 0 := by decide
example : (isSecure 0 42 1000 (demoEnv 0o040775 42) (some "/etc/munge".toList)).rc = 1 := by decide
example : (isSecure 0 noTrustedGroup 1000 (demoEnv 0o041777 0) (some "/etc/munge".toList)).rc = 1 := by decide
example : (isSecure 1 noTrustedGroup 1000 (demoEnv 0o040775 0) (some "/etc/munge".toList)).rc = 1 := by decide
example : (isSecure 1 noTrustedGroup 1000 (demoEnv 0o040757 0) (some "/etc/munge".toList)).rc = 0 := by decide
example : render ["etc".toList, "munge".toList] = "/etc/munge".toList ∧
    ancestors ["etc".toList, "munge".toList] = ["/etc/munge".toList, "/etc".toList, "/".toList] := by decide
example : IsDir 0o040755 ∧ IsReg 0o100600 ∧ IsLnk 0o120777 ∧ groupW 0o775 ∧ ¬ groupW 0o755 ∧ otherW 0o757 ∧ sticky 0o1777 := by
  unfold IsDir IsReg IsLnk fileType groupW otherW sticky; decide
/-- a good key is accepted, a group-readable one refused without `--force` and accepted (with a warning) with it -/
example : fatal (keyfile 0 0 47 ⟨some ⟨0o100600, 0, 0⟩, some ⟨0o100600, 0, 0⟩⟩ (fun _ => 1) 3) = false := by decide
example : fatal (keyfile 0 0 47 ⟨some ⟨0o100640, 0, 0⟩, some ⟨0o100640, 0, 0⟩⟩ (fun _ => 1) 3) = true := by decide
example : fatal (keyfile 1 0 47 ⟨some ⟨0o100640, 0, 0⟩, some ⟨0o100640, 0, 0⟩⟩ (fun _ => 1) 3) = false ∧
    (keyfile 1 0 47 ⟨some ⟨0o100640, 0, 0⟩, some ⟨0o100640, 0, 0⟩⟩ (fun _ => 1) 3).writes.any (fun w => w.2 = 1) = true := by
  decide
/-- the pid-file site returns normally when its directory is secure -/
example : fatal (write_pidfile 0o022 1 47 0 0 0 0 1 1 0 (fun _ => 1)) = false := by decide
example : pidModes 0 = [0o644] ∧ logModes 0 = [0o640] ∧ seedModes 0 = [0o600] ∧ pidModes 0o077 = [0o600] := by decide

end Munge.C16
