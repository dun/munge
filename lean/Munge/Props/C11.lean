import Munge.Model.ToyPrims
import Munge.Lemmas.Sys
/-
C11 — concurrent requests are isolated from one another and race-free (PARTIAL by nature).

What is proved here is about `Munge.Sys`: m in-flight requests, each a private record with a program counter
over atomic steps (recv+private stages ; gids lookup ; salt / iv draw ; replay insert ; send ; replay remove),
over one shared state (replay set, installed gid map, PRNG position), run under an ARBITRARY schedule, with the
timer thread's actions (gid-map swap, replay purge) interleaved.  Each step is `Cred.decFront / decMid /
decTail / encProcess …` — the request pipeline is the one the other credential properties are proved about.

What ties the model to the C on every run:
* `Munge.Gen.Sys` (tools/gen/g_sys.py): the list of every mutable file-scope / static variable of the daemon with
  its protection and the lock…unlock event paths of every function that touches a mutex-guarded one; the
  shared-state calls reachable from `_job_exec`; the absence of any other access to a mutable global on the
  request path.  `shared_vars_covered`, `request_path_touches_only_interface`, `shared_calls_modelled` below are
  statements about that generated data (a new unguarded global, a dropped lock, a new shared call falsifies them).
* harness/h_sys.c runs the real `_job_exec` on k threads with gates at exactly the model's steps; for forced
  schedules the model predicts every reply byte.

What the model CANNOT exhibit, and no theorem here claims: data races, static scratch buffers, non-reentrant libc
calls.  Those are looked for in the C with ThreadSanitizer and a per-client oracle (tools/props/c11.py).  The
certificates are a structural check of the lock discipline, not a proof of race freedom.
-/
namespace Munge.C11
open Munge.Cred Munge.Sys Munge.Gen.Sys

/-- ISOLATION (frame property, by induction over the schedule).  Take two systems whose daemons agree on the
    primitives and the configuration (keys) — their group databases, PRNG streams, lists of requests, initial
    replay sets and schedules (including swaps and purges) are ARBITRARY — in which request `r` occurs (as number
    `i1` in one, `i2` in the other).  If `r` made the same observations of the shared state in both runs (the
    bytes its PRNG draws returned, the answer of its membership lookup, whether its own replay key was present at
    its insert), then its private record — in particular the reply it receives — is the same in both runs.
    Nothing else about the other requests (their number, payloads, identities, clocks, errors, metadata,
    progress) can influence it. -/
theorem isolation (W1 W2 : World) (hP : W1.P = W2.P) (hcf : W1.cf = W2.cf)
    (reqs1 reqs2 : List Req) (rs1 rs2 : ReplaySet) (sched1 sched2 : List Act)
    (i1 i2 : Nat) (r : Req) (h1 : reqs1[i1]? = some r) (h2 : reqs2[i2]? = some r)
    (hobs : (run W1 reqs1 (initState rs1) sched1).obs i1 = (run W2 reqs2 (initState rs2) sched2).obs i2) :
    (run W1 reqs1 (initState rs1) sched1).locals i1 = (run W2 reqs2 (initState rs2) sched2).locals i2 ∧
    outOf (run W1 reqs1 (initState rs1) sched1) i1 = outOf (run W2 reqs2 (initState rs2) sched2) i2 := by
  have a := (inv_reachable W1 reqs1 rs1 sched1).reach i1 r h1
  have b := (inv_reachable W2 reqs2 rs2 sched2).reach i2 r h2
  rw [hobs] at a
  have := reach_functional W1 W2 hP hcf r _ _ _ a b
  exact ⟨this, by simp only [outOf, this]⟩

/-- NO FOREIGN BYTES (non-interference bound).  Whatever the other requests are and however the schedule
    interleaves them, what client `i` receives is what `Cred.jobExec` — the transaction of ONE request, a
    function of that request's bytes, peer identity and clock — returns for it, for some membership answer
    (one bit), some PRNG bytes, and a replay set of AT MOST ONE key.  So the rest of the system reaches the
    reply through two bits and the random bytes only: no payload, uid/gid, error text or metadata of another
    request can occur in it. -/
theorem no_foreign_bytes (W : World) (reqs : List Req) (rs0 : ReplaySet) (sched : List Act) (i : Nat) (r : Req)
    (hr : reqs[i]? = some r) (out : Option Bytes) (hd : (run W reqs (initState rs0) sched).locals i = .done out) :
    ∃ (ans : Bool) (drawn : Bytes) (rs' : ReplaySet), rs'.length ≤ 1 ∧
      out = (jobExec W.P W.cf (envOf r drawn ans) rs' r.bytes r.sendOk).1 :=
  (inv_reachable W reqs rs0 sched).done_reply hr hd

/-- SERIALISABLE UP TO ROLL-BACK (the exact statement that holds when sends may fail).  For every system and
    every schedule, let `lin` be the recorded linearisation order: one item per request that has completed its
    reply, placed at the step that completed it (for a decode that gets that far: its `replay_insert`), carrying
    the membership answer and PRNG bytes it obtained; one item per purge; and one item `undo k` per executed
    `replay_remove`, placed where it ran.  Then
    (1) the shared replay set is the one the SEQUENTIAL execution of `lin` produces, where each request item is
        the whole transaction `Cred.jobExec` run as if its reply were deliverable, and `undo k` erases `k`;
    (2) every reply that was delivered is the reply of its request in that sequential execution;
    (3) each request occurs at most once in `lin`, exactly once when it has finished;
    (4) every `undo` item belongs to a finished request whose reply could not be delivered.
    What is MISSING for plain serialisability: an undeliverable decode appears as TWO items — its decode at its
    insert point and the withdrawal of its record at its remove point — and the requests linearised in between
    see the record (`rollback_anomaly`). -/
theorem serializable_with_rollback_partial (W : World) (reqs : List Req) (rs0 : ReplaySet) (sched : List Act) :
    let σ := run W reqs (initState rs0) sched
    (seqRun W reqs allDeliver rs0 σ.lin).1 = σ.sh.replay ∧
    (∀ i b, σ.locals i = .done (some b) → (i, b) ∈ (seqRun W reqs allDeliver rs0 σ.lin).2) ∧
    (∀ i, countReq i σ.lin ≤ 1 ∧ (finished σ i = true → i < reqs.length → countReq i σ.lin = 1)) ∧
    (∀ k, LinItem.undo k ∈ σ.lin → ∃ i r, reqs[i]? = some r ∧ r.sendOk = false ∧ σ.locals i = .done none) := by
  have inv := inv_reachable W reqs rs0 sched
  refine ⟨by rw [inv.sim], fun i b h => by rw [inv.sim]; exact inv.ans i b (by rw [h]; rfl), fun i => ⟨?_, fun hf _ => ?_⟩, inv.und⟩
  · rw [inv.cnt i]; split <;> omega
  · rw [inv.cnt i, isPre_of_finished hf]; rfl

/-- SERIALISABLE.  When every reply is deliverable (no send fails), for every schedule: the recorded order `lin`
    contains no withdrawals — it is an ordering of the requests (each at most once, each finished one exactly
    once) and of the purges — and the SEQUENTIAL execution of that ordering, one whole transaction
    (`Cred.jobExec` with the request's own clock, peer, deliverability, and the membership answer / PRNG bytes it
    obtained) after the other, yields the same final replay set and, for every client, the reply it received.
    The ordering is that of the requests' linearisation points (the `replay_insert` of a decode that reaches it).
    Membership answers and PRNG bytes are inputs of the sequential execution: gid-map refreshes and PRNG draws
    are not serialised with the requests (a request uses the map installed at ITS lookup). -/
theorem serializable (W : World) (reqs : List Req) (rs0 : ReplaySet) (sched : List Act)
    (hall : ∀ r ∈ reqs, r.sendOk = true) :
    let σ := run W reqs (initState rs0) sched
    (∀ it ∈ σ.lin, it.isUndo = false) ∧
    (∀ i, countReq i σ.lin ≤ 1 ∧ (finished σ i = true → i < reqs.length → countReq i σ.lin = 1)) ∧
    (seqRun W reqs (fun r => r.sendOk) rs0 σ.lin).1 = σ.sh.replay ∧
    (∀ i b, outOf σ i = some b → (i, b) ∈ (seqRun W reqs (fun r => r.sendOk) rs0 σ.lin).2) := by
  intro σ
  obtain ⟨h1, h2, h3, h4⟩ := serializable_with_rollback_partial W reqs rs0 sched
  rw [seqRun_deliver_eq W reqs hall]
  refine ⟨fun it hit => ?_, h3, h1, fun i b ho => ?_⟩
  · cases it with
    | undo k =>
      obtain ⟨i, r, hr, hs, _⟩ := h4 k hit
      have := hall r (List.mem_of_getElem? hr)
      rw [hs] at this; cases this
    | req _ _ _ | purge _ => rfl
  · exact h2 i b (locals_of_outOf ho)

/-! ### the roll-back anomaly (finding F10): full-strength serialisability is FALSE when a send fails

The full-strength statement would be `serializable` WITHOUT the hypothesis `hall`:

    theorem serializable_full (W reqs rs0 sched) (hdone : ∀ i < reqs.length, finished σ i) :
        ∃ order, (each request exactly once, the purges, no other item) ∧
          ∀ i b, outOf σ i = some b → (i, b) ∈ (seqRun W reqs (fun r => r.sendOk) rs0 order).2

It is false of the current code: `dec_process_msg` calls `replay_insert` before `m_msg_send` and withdraws the
record only after the send has failed, so a second decode of the same credential that runs in between is told
REPLAYED although in NEITHER sequential order of {A (undeliverable), B} is B refused.  (Acknowledged in a comment
in dec_process_msg.)  The witness below is that schedule on a concrete system. -/

/-- toy primitives, fixed keys, a PRNG stream -/
def anomalyWorld : World :=
  { P := ToyPrims.prims, cf := { macKey := [1, 2, 3, 4], dekKey := [5, 6, 7, 8] },
    gidMaps := fun _ _ _ => false, stream := fun i => UInt8.ofNat (i * 7 + 3) }

/-- a valid credential (MAC type 2, no cipher, no compression; encoded at 1000000 with ttl 300, payload "hi") -/
def anomalyCred : Bytes :=
  forge anomalyWorld.P anomalyWorld.cf 0 2 0 [] []
    ([1, 2, 3, 4, 5, 6, 7, 8] ++ [4] ++ [127, 0, 0, 1] ++ be32 1000000 ++ be32 300 ++ be32 1000 ++ be32 1000 ++
      be32 4294967295 ++ be32 4294967295 ++ be32 2 ++ [104, 105])

def anomalyReq : Bytes := hdrBytes 4 0 (4 + anomalyCred.length) ++ be32 anomalyCred.length ++ anomalyCred

/-- A's reply cannot be delivered; B's can -/
def anomalyReqs : List Req :=
  [{ bytes := anomalyReq, peer := some (1000, 1000), now := 1000010, sendOk := false },
   { bytes := anomalyReq, peer := some (2000, 2000), now := 1000020, sendOk := true }]

/-- A inserts; B inserts (sees A's record); B is answered; A's send fails; A withdraws its record -/
def anomalySched : List Act :=
  [.req 0 .recv, .req 0 .lookup, .req 0 .insert, .req 1 .recv, .req 1 .lookup, .req 1 .insert, .req 1 .send,
   .req 0 .send, .req 0 .remove]

/-- error code of a reply (byte 11 of the wire message) -/
def errCode (o : Option Bytes) : Option UInt8 := o.map (fun b => b.getD 11 255)

/-- ROLL-BACK ANOMALY.  In the concurrent run B is answered EMUNGE_CRED_REPLAYED (17), A receives nothing and
    the replay set ends EMPTY; yet in both sequential orders of the two transactions B is answered SUCCESS (0):
    no sequential execution of {A, B} produces the concurrent outcome.  The negation of the full-strength
    statement on a concrete witness. -/
theorem rollback_anomaly :
    let σ := run anomalyWorld anomalyReqs (initState []) anomalySched
    let seqAB := seqRun anomalyWorld anomalyReqs (fun r => r.sendOk) [] [.req 0 false [], .req 1 false []]
    let seqBA := seqRun anomalyWorld anomalyReqs (fun r => r.sendOk) [] [.req 1 false [], .req 0 false []]
    finished σ 0 = true ∧ finished σ 1 = true ∧
    outOf σ 0 = none ∧ errCode (outOf σ 1) = some 17 ∧ σ.sh.replay = [] ∧
    seqAB.2.map (fun x => (x.1, x.2.getD 11 255)) = [(1, 0)] ∧
    seqBA.2.map (fun x => (x.1, x.2.getD 11 255)) = [(1, 0)] := by
  decide +kernel

/-- … and the partial theorem's reading of the same run: A as two items around B -/
example :
    (run anomalyWorld anomalyReqs (initState []) anomalySched).lin.map
      (fun it => match it with | .req i _ _ => some i | _ => none) = [some 0, some 1, none] := by
  decide +kernel

/-- unguarded variables that are acknowledged, with the justification (anything else unguarded falsifies
    `shared_vars_covered`):
    `_daemonpipe_fd_write` is written by the main thread in `daemonize_fini` (start-up, the timer thread already
    exists) and otherwise only read by `daemonpipe_write` on the fatal-error path `_log_die`, whose thread then
    exits the process. -/
def acknowledged : List String := ["daemonpipe.c:_daemonpipe_fd_write"]

/-- SHARED VARIABLES COVERED.  Every non-const file-scope / function-static variable of the daemon (struct-typed
    ones field by field) is written only by start-up / shutdown code, or lazily under a flag set at start-up, or
    is a mutex / condition variable, or a `volatile sig_atomic_t` flag, or is confined to one thread, or is
    guarded by a mutex — in which case every function that touches it (and runs while other threads exist)
    has a certificate: on each of its acyclic control-flow paths all accesses lie between lock and unlock, lock
    state is loop-invariant, helpers that expect the mutex are only called with it, no return while it is held. -/
theorem shared_vars_covered :
    ∀ v ∈ sharedVars, guardCovered certs v.2.2 = true ∨ v.1 ∈ acknowledged := by
  decide +kernel

/-- the request path relies on the per-object mutexes of the replay table and the gid map: their functions
    touch the object only inside lock/unlock (same path check; C05 / C17 certify them in their own way too) -/
theorem request_path_mutexes_certified :
    heapCerts.map (·.fn) = ["hash_find", "hash_insert", "hash_remove", "hash_delete_if", "gids_is_member"] ∧
    heapCerts.all (fun c => c.paths.all (pathOk c.mode [] []) && c.paths.any (·.contains .lock)) = true := by
  decide +kernel

/-- the model's `insert` / `remove` steps are single atomic steps of the C: on every control-flow path
    `replay_insert` / `replay_remove` perform at most one operation on the replay table, and each certified
    table / gid-map function takes its mutex at most once -/
theorem steps_are_single_critical_sections :
    tableOps.map (·.1) = ["replay_insert", "replay_remove"] ∧
    tableOps.all (fun t => t.2.all (fun p => p.length ≤ 1)) = true ∧
    heapCerts.all (fun c => c.paths.all (fun p => (p.filter (· == .lock)).length ≤ 1)) = true := by
  decide +kernel

/-- THE REQUEST PATH TOUCHES SHARED STATE ONLY THROUGH THE INTERFACE.  Between `_job_exec` and the interface
    functions no function of the call closure reads or writes a mutable global (other than start-up-only ones)
    or takes a mutex, and nothing that runs while other threads exist writes through the global `conf`. -/
theorem request_path_touches_only_interface :
    strayAccesses = [] ∧ confWrites = [] ∧ threadRoots.lookup "worker" = some ["_job_exec"] := by
  decide +kernel

/-- … and the interface functions reached are exactly the ones the model's steps stand for (plus the two
    without a modelled effect): the claim "a request touches shared state only at these points" is extracted. -/
theorem shared_calls_modelled :
    (∀ c ∈ sharedCalls, c ∈ noEffectCalls ∨ ∃ s ∈ allSteps, c ∈ stepCalls s) ∧
    (∀ s ∈ allSteps, ∀ c ∈ stepCalls s, c ∈ sharedCalls) := by
  decide +kernel

/-- a run in which two clients decode the same credential concurrently and all replies are delivered:
    exactly one SUCCESS, one REPLAYED, whichever inserts first wins (both interleavings shown) -/
example :
    let reqs := anomalyReqs.map (fun r => { r with sendOk := true })
    let s1 := run anomalyWorld reqs (initState []) (program 0 ++ program 1)
    let s2 := run anomalyWorld reqs (initState [])
      [.req 0 .recv, .req 1 .recv, .req 1 .lookup, .req 0 .lookup, .req 1 .insert, .req 0 .insert, .req 0 .send, .req 1 .send]
    (errCode (outOf s1 0), errCode (outOf s1 1)) = (some 0, some 17) ∧
    (errCode (outOf s2 0), errCode (outOf s2 1)) = (some 17, some 0) ∧
    s1.lin.length = 2 ∧ s2.lin = [.req 1 false [], .req 0 false []] := by
  decide +kernel

/-- an encode draws its salt and IV from the shared stream: two interleaved encodes get disjoint bytes -/
example :
    let enc : Bytes := hdrBytes 2 0 22 ++ [4, 5, 0, 0] ++ be32 0 ++ be32 4294967295 ++ be32 4294967295 ++ be32 2 ++ [104, 105]
    let reqs : List Req := [{ bytes := enc, peer := some (1, 1), now := 5 }, { bytes := enc, peer := some (2, 2), now := 6 }]
    let σ := run anomalyWorld reqs (initState []) [.req 0 .recv, .req 1 .recv, .req 0 .salt, .req 1 .salt, .req 1 .iv, .req 0 .iv]
    σ.sh.rndPos = 48 ∧ σ.lin = [.req 1 false (draw anomalyWorld 8 8 ++ draw anomalyWorld 16 16),
                                .req 0 false (draw anomalyWorld 0 8 ++ draw anomalyWorld 32 16)] := by
  decide +kernel

/-- the certificate checker is not vacuous: it rejects an access outside the critical section, a return with
    the mutex held, a helper called without the mutex, and a loop body that leaves the lock state changed -/
example : pathOk .takesLock [] [] [.lock, .unlock, .touch "x", .ret] = false ∧
    pathOk .takesLock [] [] [.lock, .touch "x", .ret] = false ∧
    pathOk .takesLock ["helper"] [] [.call "helper", .ret] = false ∧
    pathOk .takesLock [] [] [.lock, .head 1, .unlock, .back 1, .cut] = false ∧
    pathOk .takesLock ["helper"] [] [.lock, .call "helper", .touch "x", .unlock, .ret] = true := by
  decide

end Munge.C11
