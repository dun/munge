import Munge.Gen.Dec
import Munge.Lemmas.ConfReads
import Munge.Lemmas.Kernel
/-
C04 — UID/GID decode restrictions are enforced, silently to the unauthorized.

Theorems about the generated kernels `dec_validate_auth` and `dec_process_msg`
(re-translated from src/munged/dec.c on every run).  Group membership
(`gids_is_member`) is a parameter here; that its answer equals the databases is C17.
-/
namespace Munge.C04
open Munge.C Munge.Gen.Dec
open scoped Munge.Kernel

/-- all identities are `uint32_t`; the root-exemption flag is one bit -/
def Ranges (authUid authGid clientUid clientGid rootAuth : Int) : Prop :=
  0 ≤ authUid ∧ authUid < 4294967296 ∧ 0 ≤ authGid ∧ authGid < 4294967296 ∧
  0 ≤ clientUid ∧ clientUid < 4294967296 ∧ 0 ≤ clientGid ∧ clientGid < 4294967296 ∧
  0 ≤ rootAuth ∧ rootAuth ≤ 1

/-- the statement's authorisation condition -/
def Authorized (authUid authGid clientUid clientGid rootAuth : Int) (member : Int → Int → Int) : Prop :=
  (authUid = MUNGE_UID_ANY ∨ authUid = clientUid ∨ (rootAuth ≠ 0 ∧ clientUid = 0)) ∧
  (authGid = MUNGE_GID_ANY ∨ authGid = clientGid ∨ member clientUid authGid ≠ 0)

/-- The kernel accepts exactly the authorised clients: UID restriction equal (or ANY, or the
    compile-time root exemption), AND GID restriction equal to the client's GID or a group the
    database lists the client's UID in (or ANY) — for every identity in `uint32`, every membership
    relation. -/
theorem auth_spec (authUid authGid clientUid clientGid rootAuth : Int) (member : Int → Int → Int)
    (h : Ranges authUid authGid clientUid clientGid rootAuth) :
    (dec_validate_auth authUid authGid clientUid clientGid rootAuth member).ret = 0 ↔
      Authorized authUid authGid clientUid clientGid rootAuth member := by
  unfold Ranges at h
  unfold Authorized MUNGE_UID_ANY MUNGE_GID_ANY
  kcases dec_validate_auth <;> dsimp only [wrapS32] at * <;> omega

/-- Every refusal is reported as `EMUNGE_CRED_UNAUTHORIZED` (and nothing else is written). -/
theorem refusal_is_unauthorized (authUid authGid clientUid clientGid rootAuth : Int) (member : Int → Int → Int) :
    let r := dec_validate_auth authUid authGid clientUid clientGid rootAuth member
    r.writes = [] ∧ (r.ret ≠ 0 → r.ret = -1 ∧ r.err = EMUNGE_CRED_UNAUTHORIZED) ∧ (r.ret = 0 → r.err = 0) := by
  kcases dec_validate_auth <;> simp [EMUNGE_CRED_UNAUTHORIZED]

/-- Root is not exempt unless the daemon was built to allow it: the flag the daemon uses is the
    compile-time `MUNGE_AUTH_ROOT_ALLOW_FLAG` (generated; 0 in this tree), and with it a root client is
    treated like any other UID. -/
theorem root_not_exempt (authUid authGid clientGid : Int) (member : Int → Int → Int)
    (h : Ranges authUid authGid 0 clientGid MUNGE_AUTH_ROOT_ALLOW_FLAG)
    (hu : authUid ≠ MUNGE_UID_ANY) (hu0 : authUid ≠ 0) :
    (dec_validate_auth authUid authGid 0 clientGid MUNGE_AUTH_ROOT_ALLOW_FLAG member).ret = -1 := by
  refine ((refusal_is_unauthorized authUid authGid 0 clientGid _ member).2.1 fun h0 => ?_).1
  have ha := (auth_spec _ _ _ _ _ member h).mp h0
  unfold Authorized MUNGE_AUTH_ROOT_ALLOW_FLAG at ha
  omega

/-- Authorisation is decided BEFORE the time window and the replay cache: when `dec_validate_auth`
    refuses, neither `dec_validate_time` nor `dec_validate_replay` (the only stage that records a
    credential) runs, and nothing is withdrawn from the replay cache either — whatever the clock and
    the replay state are.  Hence the unauthorised client gets UNAUTHORIZED whether or not the
    credential is also expired, rewound or already decoded, and the attempt does not consume it. -/
theorem unauthorized_wins_and_does_not_consume
    (e r1 r2 r3 r4 r5 r6 r7 r8 r9 r10 r11 r12 r13 r14 rs ri : Int) (hauth : r12 < 0) :
    let out := dec_process_msg e r2 ri r1 r3 r4 r5 r6 r7 r8 r9 r10 r11 r12 r13 r14 rs
    out.count "dec_validate_time" = 0 ∧ out.count "dec_validate_replay" = 0 ∧
    out.count "replay_remove" = 0 ∧ out.ret = -1 := by
  kcases dec_process_msg with [hauth] <;> decide

/-- … and the reply to it is sanitised: with the error code UNAUTHORIZED in the message the reset
    runs exactly once before the single send (no payload, identity or metadata is disclosed). -/
theorem unauthorized_reply_is_reset
    (r1 r2 r3 r4 r5 r6 r7 r8 r9 r10 r11 r12 r13 r14 rs ri : Int) (hauth : r12 < 0) :
    let out := dec_process_msg EMUNGE_CRED_UNAUTHORIZED r2 ri r1 r3 r4 r5 r6 r7 r8 r9 r10 r11 r12 r13 r14 rs
    out.count "m_msg_reset" = 1 ∧ out.count "m_msg_send" = 1 := by
  unfold EMUNGE_CRED_UNAUTHORIZED
  kcases dec_process_msg with [hauth, Int.reduceEq] <;> decide

/-- The authorisation stage itself runs only after the MAC has been validated and the inner layer
    unpacked: the restriction fields it reads are authenticated. -/
theorem auth_reads_authenticated_fields
    (e r1 r2 r3 r4 r5 r6 r7 r8 r9 r10 r11 r12 r13 r14 rs ri : Int) :
    let out := dec_process_msg e r2 ri r1 r3 r4 r5 r6 r7 r8 r9 r10 r11 r12 r13 r14 rs
    out.count "dec_validate_auth" = 1 →
      r9 ≥ 0 ∧ r11 ≥ 0 ∧ out.count "dec_validate_mac" = 1 ∧ out.count "dec_unpack_inner" = 1 := by
  -- the counts are over closed event lists: decided first, so that `simp` need not walk the list at every leaf
  kcases dec_process_msg <;> simp +decide only [KOut.count] <;> simp <;> omega

/-! ### non-vacuity -/
example : Authorized 1000 4294967295 1000 50 0 (fun _ _ => 0) := by
  unfold Authorized MUNGE_UID_ANY MUNGE_GID_ANY; omega
example : (dec_validate_auth 1000 4294967295 1000 50 0 (fun _ _ => 0)).ret = 0 := by decide
example : (dec_validate_auth 1000 4294967295 0 0 0 (fun _ _ => 0)).err = EMUNGE_CRED_UNAUTHORIZED := by decide
example : (dec_validate_auth 4294967295 77 1000 50 0 (fun u g => if u = 1000 ∧ g = 77 then 1 else 0)).ret = 0 := by decide
example : (dec_validate_auth 4294967295 77 1001 50 0 (fun u g => if u = 1000 ∧ g = 77 then 1 else 0)).ret = -1 := by decide

/-- The pipeline's source files consult exactly the configuration fields that the model's `Conf` carries (table regenerated
    from the source on every run): the theorems above, stated for every `cf`, cover every configuration switch that can
    influence the authorisation verdict.  A new `conf->…` dependence in enc.c / dec.c / cred.c / m_msg.c breaks this. -/
theorem conf_fields_as_modelled : Munge.Gen.Dec.confReads = Munge.Cred.confAsModelled :=
  Munge.Cred.conf_reads_as_modelled

end Munge.C04
