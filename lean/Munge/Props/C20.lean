import Munge.Lemmas.Hkdf
/-
C20 — Keys: exact-size, private, never overwritten; HKDF per RFC 5869; whole-file keying.

Everything named `Munge.Gen.Hkdf.*` (the structure of the HKDF loop, the `--bits`
arithmetic and range tests, `open` flags and mode, the `--force` unlink, the digest program of `create_subkeys`,
its length test and read-loop tests, and all constants) is regenerated from the C sources on every run, so every
statement in this file is re-checked against what the code says now.
-/
namespace Munge.C20
open Munge.C Munge.Gen.Hkdf Munge.Hkdf Munge.Spec Munge.Mungekey Munge.Subkeys

/-- `hkdf()` equals the RFC 5869 definition for every MAC with tags of `hashLen > 0` octets (`hashLen` is what
    `mac_size` returns, a C `int`), every input keying material, optional salt (absent = HashLen zeros), info and
    every output length up to 255 blocks. -/
theorem hkdf_is_rfc (mac : Mac) (hashLen : Nat) (salt : Option Bytes) (ikm info : Bytes) (L : Nat)
    (hpos : 0 < hashLen) (hint : hashLen ≤ 2147483647) (hlen : ∀ k m, (mac k m).length = hashLen)
    (hL : L ≤ 255 * hashLen) :
    Hkdf.run mac hashLen salt ikm info L = rfc5869 mac hashLen salt ikm info L := by
  unfold Hkdf.run rfc5869 expand
  simp only [effSalt_eq, extract_eq, prkLen_toNat, fit_eq _ _ (hlen _ _)]
  rw [hkdfExpand_eq_blocks]
  exact expandLoop_spec mac hashLen hpos hint hlen _ ikm info _ L 0 _ L _ (by omega) (Nat.le_refl _)
    (by omega) (ceil_mul_ge L hashLen hpos) (fun h => absurd rfl h)

/-- … and it delivers exactly the `L` octets asked for. -/
theorem hkdf_length (mac : Mac) (hashLen : Nat) (salt : Option Bytes) (ikm info : Bytes) (L : Nat)
    (hpos : 0 < hashLen) (hint : hashLen ≤ 2147483647) (hlen : ∀ k m, (mac k m).length = hashLen)
    (hL : L ≤ 255 * hashLen) :
    (Hkdf.run mac hashLen salt ikm info L).length = L := by
  rw [hkdf_is_rfc mac hashLen salt ikm info L hpos hint hlen hL]
  exact rfc5869_length mac hashLen hpos hlen salt ikm info L

/-- `--bits b` with `256 ≤ b ≤ 8192` yields a key of exactly `⌈b/8⌉` bytes, which lies within 32..1024; any
    other value makes mungekey exit with an error; without `--bits` the key has `MUNGE_KEY_LEN_DFL_BYTES` bytes. -/
theorem key_size (b : Int) :
    (256 ≤ b ∧ b ≤ 8192 →
      keyNumBytes (some b) = some ((b + 7) / 8) ∧ 8 * ((b + 7) / 8) ≥ b ∧ 8 * ((b + 7) / 8) < b + 8 ∧
        32 ≤ (b + 7) / 8 ∧ (b + 7) / 8 ≤ 1024) ∧
    (¬ (256 ≤ b ∧ b ≤ 8192) → keyNumBytes (some b) = none) ∧
    keyNumBytes none = some KEY_LEN_DFL_BYTES := by
  have hd : validates dflBytes = true := by decide
  refine ⟨fun h => ?_, fun h => ?_, ?_⟩
  · have hv : validates ((b + 7) / 8) = true := (validates_iff _).2 (by omega)
    refine ⟨?_, by omega, by omega, by omega, by omega⟩
    simp [keyNumBytes, hd, parseBits_eq, h, hv]
  · simp [keyNumBytes, hd, parseBits_eq, h]
  · rfl

/-- With `--force` (or on a name that does not exist) the key is created afresh: the name now denotes a new file
    with the new bytes, and no other name is touched. -/
theorem force_replaces (fs : FS) (path : String) (force : Bool) (umask : Nat) (n : Int) (secret : Bytes)
    (h : fs path = none ∨ force = true) :
    let r := createKey fs path force umask n secret
    r.2 = true ∧
    r.1 path = some { content := (fit (secretLen n).toNat secret).take (writeLen n).toNat,
                      mode := maskMode openMode umask } ∧
    ∀ q, q ≠ path → r.1 q = fs q := by
  intro r
  have hr : r = _ := (createKey_eq fs path force umask n secret).trans (if_pos h)
  rw [hr]
  exact ⟨rfl, FS.set_same _ _ _, fun q hq => FS.set_other _ _ _ _ hq⟩

/-- The file mungekey creates holds exactly the requested number of bytes, and they are the RFC 5869 HKDF
    (default MAC, the entropy read as keying material and salt, the `MUNGEKEY:<mac>:<bits>:` distinguisher)
    — for every `--bits` value in range, every umask, on a fresh name or with `--force`. -/
theorem key_exact (mac : Mac) (hlen : ∀ k m, (mac k m).length = DEFAULT_MAC_LEN.toNat) (ikm salt : Bytes)
    (b : Int) (hb : 256 ≤ b ∧ b ≤ 8192) (fs : FS) (path : String) (force : Bool) (umask : Nat)
    (hfresh : fs path = none ∨ force = true) :
    let n := (b + 7) / 8
    let r := createKey fs path force umask n (keySecret mac DEFAULT_MAC_LEN.toNat ikm salt (secretLen n))
    r.2 = true ∧ ∃ f, r.1 path = some f ∧ f.content.length = n.toNat ∧
      f.content = rfc5869 mac DEFAULT_MAC_LEN.toNat (some salt) ikm (keyInfo n) n.toNat := by
  intro n r
  have hn : 32 ≤ n ∧ n ≤ 1024 := by show 32 ≤ (b + 7) / 8 ∧ (b + 7) / 8 ≤ 1024; omega
  have hsl : secretLen n = n := by unfold secretLen wrapU64; omega
  have hwl : (writeLen n).toNat = n.toNat := by unfold writeLen wrapU64; omega
  have hmd : DEFAULT_MAC_LEN.toNat = 32 := rfl
  have hrfc := hkdf_is_rfc mac _ (some salt) ikm (keyInfo n) n.toNat (by rw [hmd]; omega) (by rw [hmd]; omega) hlen
    (by rw [hmd]; omega)
  have hlen' := rfc5869_length mac _ (by rw [hmd]; omega) hlen (some salt) ikm (keyInfo n) n.toNat
  obtain ⟨h1, h2, -⟩ := force_replaces fs path force umask n _ hfresh
  refine ⟨h1, _, h2, ?_⟩
  -- the secret has the length of the buffer, so neither `fit` nor the `write` length cuts anything off
  simp only [hsl, hwl, keySecret, hrfc, fit_eq _ _ hlen', List.take_of_length_le (Nat.le_of_eq hlen'), hlen', and_self]

/-- An existing key file is never replaced without `--force`: the exclusive `open` fails and the file system
    is left exactly as it was. -/
theorem no_overwrite (fs : FS) (path : String) (umask : Nat) (n : Int) (secret : Bytes) (old : File)
    (h : fs path = some old) : createKey fs path false umask n secret = (fs, false) := by
  rw [createKey_eq, if_neg (by simp [h])]

/-- Whatever the umask (all of them, not only the 512 permission masks), a key file that mungekey created
    grants nothing to group or others. -/
theorem key_private (fs : FS) (path : String) (force : Bool) (umask : Nat) (n : Int) (secret : Bytes) :
    (createKey fs path force umask n secret).2 = true →
      ∃ f, (createKey fs path force umask n secret).1 path = some f ∧ f.mode &&& 0o077 = 0 := by
  rw [createKey_eq]
  split
  · exact fun _ => ⟨_, FS.set_same _ _ _, maskMode_and openMode umask 0o077 (by decide)⟩
  · -- an existing file and no `--force`: `create_key` fails
    exact fun hok => nomatch hok

/-- the cipher subkey and the MAC subkey that `create_subkeys` stored into `conf` -/
def dekKey (r : Option (List (String × Bytes))) : Option Bytes := r.bind (·.lookup "dek_key")
def macKey (r : Option (List (String × Bytes))) : Option Bytes := r.bind (·.lookup "mac_key")

/-- For every file content of at least 32 bytes and **every** way `read()` may chop it up (any chunk sizes, any
    number of `EINTR`s), the two subkeys are the digest of the entire file followed by "1" (cipher key) and by
    "2" (MAC key).  Needs only the streaming law of the digest. -/
theorem whole_file_keying {σ : Type} (d : Digest σ) (law : StreamLaw d) (file : Bytes) (evs : List ReadEv)
    (hr : ReadsOf file evs) (hlen : 32 ≤ file.length) :
    dekKey (createSubkeys d evs) = some (d.hash MAC_SHA1.toNat (file ++ [0x31])) ∧
    macKey (createSubkeys d evs) = some (d.hash MAC_SHA1.toNat (file ++ [0x32])) := by
  obtain ⟨s', hs, _, he⟩ := createSubkeys_eval d file evs hr
  obtain ⟨outs, ho, hd, hm⟩ := he (by omega)
  have hne : file ≠ [] := by intro h; subst h; simp at hlen
  rw [ho, hs law] at *
  simp [dekKey, macKey, hd, hm, Digest.hash, fed_of_ne_nil _ _ hne, law _ _ _]

/-- A key file shorter than 32 bytes is refused and one of at least 32 bytes is accepted — for every digest
    and every read chunking. -/
theorem min_len {σ : Type} (d : Digest σ) (file : Bytes) (evs : List ReadEv) (hr : ReadsOf file evs) :
    (createSubkeys d evs = none ↔ file.length < 32) := by
  obtain ⟨s', _, h1, h2⟩ := createSubkeys_eval d file evs hr
  refine ⟨fun hn => Decidable.not_not.mp fun hc => ?_, h1⟩
  obtain ⟨outs, ho, _⟩ := h2 hc
  cases hn.symm.trans ho

/-- the hypothesis under which different key files give different subkeys: the digest does not collide on the two
    given inputs (a hypothesis of `same_key_iff`, never an axiom) -/
def NoCollision {σ : Type} (d : Digest σ) (alg : Nat) (x y : Bytes) : Prop := d.hash alg x = d.hash alg y → x = y

/-- byte-identical key files give identical subkeys (the whole result of `create_subkeys` is the same), however
    each daemon's reads were chunked -/
theorem same_file_same_keys {σ : Type} (d : Digest σ) (law : StreamLaw d) (file : Bytes) (e1 e2 : List ReadEv)
    (h1 : ReadsOf file e1) (h2 : ReadsOf file e2) : createSubkeys d e1 = createSubkeys d e2 := by
  apply createSubkeys_congr
  intro s n
  obtain ⟨s1, r1, l1⟩ := readLoop_reads d file e1 h1 s n
  obtain ⟨s2, r2, l2⟩ := readLoop_reads d file e2 h2 s n
  rw [r1, r2, l1 law, l2 law]

/-- Two daemons hold the same subkeys exactly when their key files are byte-identical — "only if" under the
    explicit hypothesis that the digest does not collide on the two suffixed files. -/
theorem same_key_iff {σ : Type} (d : Digest σ) (law : StreamLaw d) (f1 f2 : Bytes) (e1 e2 : List ReadEv)
    (h1 : ReadsOf f1 e1) (h2 : ReadsOf f2 e2) (l1 : 32 ≤ f1.length) (l2 : 32 ≤ f2.length)
    (hnc : NoCollision d MAC_SHA1.toNat (f1 ++ [0x31]) (f2 ++ [0x31]) ∨
           NoCollision d MAC_SHA1.toNat (f1 ++ [0x32]) (f2 ++ [0x32])) :
    createSubkeys d e1 = createSubkeys d e2 ↔ f1 = f2 := by
  constructor
  · intro h
    have w1 := whole_file_keying d law f1 e1 h1 l1
    have w2 := whole_file_keying d law f2 e2 h2 l2
    rw [h] at w1
    rcases hnc with hn | hn
    · exact List.append_cancel_right (hn (Option.some.inj (w1.1.symm.trans w2.1)))
    · exact List.append_cancel_right (hn (Option.some.inj (w1.2.symm.trans w2.2)))
  · intro h
    subst h
    exact same_file_same_keys d law f1 e1 e2 h1 h2

/-- the toy MAC the harness shares with the driver satisfies the length hypothesis (`Toy.mac_length`) -/
example (salt : Option Bytes) (ikm info : Bytes) (L : Nat) (h : L ≤ 255 * 20) :
    Hkdf.run (Toy.mac 20) 20 salt ikm info L = rfc5869 (Toy.mac 20) 20 salt ikm info L :=
  hkdf_is_rfc _ 20 salt ikm info L (by omega) (by omega) (Toy.mac_length 20) h

/-- a digest that satisfies the streaming law and never collides: the identity -/
def idDigest : Digest Bytes := { init := fun _ => [], update := fun s b => s ++ b, final := fun s => s }
example : StreamLaw idDigest := fun s a b => List.append_assoc s a b
example (x y : Bytes) : NoCollision idDigest 3 x y := by
  intro h; simpa [Digest.hash, idDigest] using h

/-- a 33-byte file read as 1 + EINTR + 32 bytes -/
example : ReadsOf (7 :: List.replicate 32 9)
    [{ n := 1, errno := 0, data := [7] }, { n := -1, errno := EINTR, data := [] },
     { n := 32, errno := 4, data := List.replicate 32 9 }, { n := 0, errno := 0, data := [] }] := by
  have h := ReadsOf.data (List.replicate 32 9) 4 (by decide) (ReadsOf.eof 0)
  exact ReadsOf.data [7] 0 (by decide) (ReadsOf.eintr (by simpa using h))

/-- … on which `create_subkeys` over the identity digest returns the whole file followed by "1" / "2" -/
example : (dekKey (createSubkeys idDigest
    [{ n := 1, errno := 0, data := [7] }, { n := -1, errno := EINTR, data := [] },
     { n := 32, errno := 4, data := List.replicate 32 9 }, { n := 0, errno := 0, data := [] }]),
   macKey (createSubkeys idDigest
    [{ n := 33, errno := 0, data := 7 :: List.replicate 32 9 }, { n := 0, errno := 0, data := [] }]))
    = (some (7 :: List.replicate 32 9 ++ [0x31]), some (7 :: List.replicate 32 9 ++ [0x32])) := by decide
example : createSubkeys idDigest [{ n := 31, errno := 0, data := List.replicate 31 9 }, { n := 0, errno := 0, data := [] }]
    = none := by decide

example : keyNumBytes (some 257) = some 33 := by decide
example : keyNumBytes (some 255) = none := by decide
example : ((createKey (fun _ => none) "k" false 0o022 32 (List.replicate 32 1)).1 "k").map (·.content)
    = some (List.replicate 32 1) := by decide

end Munge.C20
