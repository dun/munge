import Munge.Gen.Pack
import Munge.Lemmas.Kernel
/-!
# C10 / C01 / C08 (packers): what `enc_pack_outer` and `enc_pack_inner` write is exactly their allocation, in the v3 order

`Munge.Gen.Pack.enc_pack_outer` / `enc_pack_inner` are regenerated from `src/munged/enc.c` on every run by the K+cursor
translator: the allocation is a `("malloc", [size])` event, every store through the cursor a `("wr", [off, n, kind, v])`
event (kind 0: the byte `v`; kind 1: the big-endian 32-bit word `v`; kind 2: `n` bytes copied from the source named by
`<kernel>_srcNames[v]`).
-/
namespace Munge.C10Pack
open Munge.C Munge.Gen.Pack
open scoped Munge.Kernel

/-- the stores of an event list tile `[pos, cap)`: the buffer is allocated first with `cap` bytes, each store begins where the
    previous one ended, has a non-negative length, and the last one ends exactly at `cap` -/
def tiles : Int → Option Int → List (String × List Int) → Prop
  | pos, cap, [] => cap = some pos
  | pos, cap, (nm, args) :: t =>
    if nm = "malloc" then cap = none ∧ pos = 0 ∧ 0 < args.getD 0 0 ∧ tiles 0 (some (args.getD 0 0)) t
    else if nm = "wr" then cap.isSome ∧ args.getD 0 (-1) = pos ∧ 0 ≤ args.getD 1 (-1) ∧ tiles (pos + args.getD 1 0) cap t
    else tiles pos cap t

/-- the stores, as (kind, value-or-source, length) in order -/
def layout (evs : List (String × List Int)) : List (Int × Int × Int) :=
  (evs.filter (·.1 == "wr")).map fun e => (e.2.getD 2 (-1), e.2.getD 3 (-1), e.2.getD 1 (-1))

theorem ite_intro {c : Prop} [Decidable c] {P Q : Prop} (hp : c → P) (hq : ¬c → Q) : if c then P else Q := by
  split <;> simp_all

/-- **`enc_pack_outer` initialises exactly the bytes it allocates** (no byte of the outer layer is left uninitialised, none
    is written outside): for a fresh credential (`outer_mem_len = 0`), every `uint8` realm length and every IV length a
    cipher can report, the allocation has `5 + realm_len + iv_len` bytes and the stores tile it in order. -/
theorem outer_writes_tile (version cipher mac zip realm_len iv_len : Int) (outer : Int → Int)
    (hr : 0 ≤ realm_len ∧ realm_len ≤ 255) (hi : 0 ≤ iv_len ∧ iv_len ≤ 2147483000) :
    tiles 0 none (enc_pack_outer 0 version cipher mac zip realm_len iv_len 1 outer).events := by
  -- no conversion wraps on these ranges: dropping them first spares `omega` twenty nested `%`
  kcases enc_pack_outer <;> simp (disch := omega) only [wrapS32_id, wrapU64_id] <;> simp [tiles] <;> omega

/-- **The outer layer is written in the v3 order**: version, cipher, MAC, zip, realm length (one byte each), then the realm
    string (if any) and the IV (if any); and the place remembered for the compression fall-back (`outer_zip_ref`) is
    the zip byte, offset 3. -/
theorem outer_layout (version cipher mac zip realm_len iv_len : Int) (outer : Int → Int)
    (hr : 0 ≤ realm_len ∧ realm_len ≤ 255) (hi : 0 ≤ iv_len ∧ iv_len ≤ 2147483000) :
    let o := enc_pack_outer 0 version cipher mac zip realm_len iv_len 1 outer
    o.ret = 0 ∧ o.get "c.outer_zip_ref.off" (-1) = 3 ∧ o.get "c.outer_len" (-1) = 5 + realm_len + iv_len ∧
    layout o.events = [(0, version, 1), (0, cipher, 1), (0, mac, 1), (0, zip, 1), (0, realm_len, 1)] ++
      (if realm_len > 0 then [(2, 0, realm_len)] else []) ++ (if iv_len > 0 then [(2, 1, iv_len)] else []) := by
  kcases enc_pack_outer <;> simp (disch := omega) only [wrapS32_id, wrapU64_id] <;> simp [layout, *] at * <;> omega

example : enc_pack_outer_srcNames = ["c.msg.realm_str", "c.iv"] := by decide

/-- **`enc_pack_inner` initialises exactly the bytes it allocates**: salt, address length and address, seven big-endian
    words, payload - `salt_len + 1 + 4 + 28 + data_len` bytes, tiled in order, for every payload length the request
    gate admits. -/
theorem inner_writes_tile (salt_len time0 ttl cu cg au ag data_len : Int) (inner : Int → Int)
    (hs : 0 < salt_len ∧ salt_len ≤ 8) (hd : 0 ≤ data_len ∧ data_len ≤ 2147483000) :
    tiles 0 none (enc_pack_inner 0 salt_len time0 ttl cu cg au ag data_len 1 inner).events := by
  kcases enc_pack_inner <;> simp (disch := omega) only [wrapS32_id, wrapU64_id, wrapU32_id] <;> simp [tiles] <;> omega

/-- **The inner layer is written in the v3 order**: salt, address length (= 4), address (from the daemon's configuration),
    encode time, TTL, client UID, client GID, UID restriction, GID restriction, payload length (big-endian words), payload. -/
theorem inner_layout (salt_len time0 ttl cu cg au ag data_len : Int) (inner : Int → Int)
    (hs : 0 < salt_len ∧ salt_len ≤ 8) (hd : 0 ≤ data_len ∧ data_len ≤ 2147483000) :
    let o := enc_pack_inner 0 salt_len time0 ttl cu cg au ag data_len 1 inner
    o.ret = 0 ∧ o.get "c.inner_len" (-1) = salt_len + 33 + data_len ∧ o.get "c.msg.addr_len" (-1) = 4 ∧
    layout o.events = [(2, 0, salt_len), (0, 4, 1), (2, 1, 4), (1, time0, 4), (1, ttl, 4), (1, cu, 4), (1, cg, 4), (1, au, 4),
      (1, ag, 4), (1, data_len, 4)] ++ (if data_len > 0 then [(2, 2, data_len)] else []) := by
  kcases enc_pack_inner <;> simp (disch := omega) only [wrapS32_id, wrapU64_id, wrapU32_id] <;> simp [layout, *] at * <;> omega

example : enc_pack_inner_srcNames = ["c.salt", "conf.addr", "c.msg.data"] := by decide

/-- non-vacuity: a realm of 2 bytes and an IV of 16 -/
example : (enc_pack_outer 0 3 4 5 0 2 16 1 (fun _ => 0)).events =
    [("malloc", [23]), ("wr", [0, 1, 0, 3]), ("wr", [1, 1, 0, 4]), ("wr", [2, 1, 0, 5]), ("wr", [3, 1, 0, 0]), ("wr", [4, 1, 0, 2]),
     ("wr", [5, 2, 2, 0]), ("wr", [7, 16, 2, 1])] := by decide +kernel

end Munge.C10Pack
