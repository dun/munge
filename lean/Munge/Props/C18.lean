import Munge.Lemmas.Timer
/-
C18 — timers fire once, on time and in order; periodic services keep running.

Model: `Munge/Model/Timer.lean` (mirrors `src/munged/timer.c`, `clock.c`).  Everything that
decides behaviour is `Munge.Gen.Timer.*`, regenerated from the sources on every run: the timespec
comparator and clock arithmetic (translated), which comparator/argument order/polarity the sorted
insert walk and the expiry scan use, the head-change tests that guard `pthread_cond_signal`, the
id-counter bump, guards and return values, the lock/dispatch event order of the thread function,
the re-arm sites of the three periodic callbacks and the callers of the timer API.

Vocabulary (defined in the model file): a trace is a list of `Op`s — `ext acts` (requests
`setAbs/setRel/cancel` from any other thread), `tick now'` (the clock moves forward by any amount),
`scan` (the thread reads the clock and detaches the expired prefix), `run acts` (the thread
dispatches the next detached timer with the mutex released; `acts` is what that callback asks of the
timer module).  Every interleaving of callers with the timer thread is such a trace, because
set/cancel/scan are critical sections of `_timer_mutex` (certificates below).  `seq` is a ghost
serial number (set order); `line s` = dispatched ++ being dispatched ++ pending.
-/
namespace Munge.C18
open Munge.Timer Munge.Gen.Timer Munge.C

/-- `before a b` (used below) is exactly: earlier expiry time, or the same expiry time and set earlier -/
theorem before_iff (a b : Tm) :
    before a b ↔ (a.ts.1 < b.ts.1 ∨ (a.ts.1 = b.ts.1 ∧ a.ts.2 < b.ts.2)) ∨ (a.ts = b.ts ∧ a.seq < b.seq) := by
  unfold before; rw [le_iff, le_iff, Prod.ext_iff]; omega

/-- The state invariant holds in every reachable state, for every trace: `_timer_active` is sorted
    by (expiry time, set order) — stable insertion —, a timer is in at most one of
    log / detached batch / active list and at most once, every detached timer had expired at its
    scan, and no callback has started before its expiry time. -/
theorem sorted_inv (ops : List Op) : TimerInv (exec init ops) :=
  inv_exec inv_init ops

/-- … and it is inductive: it is preserved from any state that satisfies it. -/
theorem sorted_inv_step {s : State} (h : TimerInv s) (ops : List Op) :
    TimerInv (exec s ops) ∧ (exec s ops).active.Pairwise before :=
  ⟨inv_exec h ops, (inv_exec h ops).sorted⟩

/-- At most once: no timer (identified by its set-order serial number) is dispatched twice,
    whatever the callers, the callbacks and the clock do. -/
theorem fires_at_most_once (ops : List Op) : ((exec init ops).log.map (·.1.seq)).Nodup := by
  have := (sorted_inv ops).nodup_parts.1.sublist ((List.sublist_append_left _ _).map _)
  rwa [logged, List.map_map] at this

/-- Exactly once: a pending timer that nobody cancels, once the thread scans at a clock reading
    `now ≥ ts` and then works through the detached batch, has had its callback started (and by
    `fires_at_most_once` only once).  That the thread does scan then is `no_missed_head`. -/
theorem fires_once {s : State} {t : Tm} (h : TimerInv s) (ht : t ∈ s.active)
    (ops₁ rest : List Op) (hc : ¬ traceCancels t.id ops₁)
    (hb : (exec s ops₁).batch = []) (hnow : le t.ts (exec s ops₁).now = true)
    (hr : (scan (exec s ops₁)).batch.length ≤ runCount rest) :
    t ∈ logged (exec s (ops₁ ++ Op.scan :: rest)) := by
  have hi := inv_exec h ops₁
  have hl : t ∈ line (exec s ops₁) := exec_line_keep ops₁ (List.mem_append_right _ ht) hc
  have e : exec s (ops₁ ++ Op.scan :: rest) = exec (scan (exec s ops₁)) rest := List.foldl_append
  rw [e]
  rw [line_def, hb, List.append_nil] at hl
  rcases List.mem_append.1 hl with hl | hl
  · exact (later_exec _ rest).mem_logged (by rw [scan_frame]; exact hl)
  · exact batch_drains rest hr t (scan_moves hi hb hl hnow)

/-- No callback starts before its timer's expiry time: every log entry `(t, at)` has
    `t.ts ≤ at` in the sense of the real `clock_is_timespec_le`. -/
theorem never_early (ops : List Op) : ∀ p ∈ (exec init ops).log, le p.1.ts p.2 = true :=
  (sorted_inv ops).logOk

/-- A relative timer is never due before `now + msec`: for a normalised clock reading and a
    non-negative delay (no `long` overflow) `clock_get_timespec` returns exactly now + msec,
    normalised. -/
theorem set_relative_time (now : TS) (ms : Int) (hn : 0 ≤ now.2 ∧ now.2 < 1000000000)
    (hs : 0 ≤ now.1 ∧ now.1 < 4000000000000) (hm : 0 ≤ ms ∧ ms < 4000000000000000) :
    let r := addMs now ms
    r.1 * 1000000000 + r.2 = now.1 * 1000000000 + now.2 + ms * 1000000 ∧
    0 ≤ r.2 ∧ r.2 < 1000000000 ∧ le now r = true := by
  intro r
  have hr : r = _ := addMs_eq now ms hn hs hm
  rw [le_iff, hr]
  omega

/-- Timers fire in expiry order, ties in the order set: if `a` and `b` are pending at the same time
    and `a` must fire first, then in every later state in which `b`'s callback has started, `a`'s
    callback started earlier — unless `a` was cancelled in between (it is then nowhere in the line). -/
theorem order {s : State} {a b : Tm} (h : TimerInv s) (ha : a ∈ s.active) (hb : b ∈ s.active)
    (hab : before a b) (ops : List Op) (l₁ l₂ : List Tm)
    (hlog : logged (exec s ops) = l₁ ++ b :: l₂) (hline : a ∈ line (exec s ops)) : a ∈ l₁ := by
  have h1 := (later_exec s ops).neverBefore (h.neverBefore hb hab)
    (h.fresh a (List.mem_append_right _ ha)) (h.fresh b (List.mem_append_right _ hb))
  have e : line (exec s ops) = l₁ ++ b :: (l₂ ++ (exec s ops).batch ++ (exec s ops).active) := by
    rw [line, hlog]; simp
  rw [e] at h1 hline
  -- `a` is in l₁ ++ b :: rest: it is not `b`, and it cannot be after `b`
  rcases List.mem_append.1 hline with hm | hm
  · exact hm
  · rcases List.mem_cons.1 hm with rfl | hm
    · exact absurd (hab.2 hab.1) (Nat.lt_irrefl _)
    · exact absurd hm h1.not_mem_after

/-- … in particular, if nobody calls `timer_cancel` with `a`'s id, `a` fires before `b`. -/
theorem order_not_cancelled {s : State} {a b : Tm} (h : TimerInv s) (ha : a ∈ s.active) (hb : b ∈ s.active)
    (hab : before a b) (ops : List Op) (hc : ¬ traceCancels a.id ops) (l₁ l₂ : List Tm)
    (hlog : logged (exec s ops) = l₁ ++ b :: l₂) : a ∈ l₁ :=
  order h ha hb hab ops l₁ l₂ hlog (exec_line_keep ops (List.mem_append_right _ ha) hc)

/-- `timer_cancel (id)`:
    * a non-positive id is rejected with -1 (EINVAL) and nothing changes;
    * an id that no pending timer carries (never set, already fired, being dispatched, already
      cancelled) returns 0 and nothing changes;
    * otherwise it returns 1, the first pending timer `x` with that id leaves the active list and
      nothing else changes, and `x`'s callback will never start, whatever happens later.
    (`ids_distinct` below: there is only one such `x`.) -/
theorem cancel_spec (s : State) (id : Int) (h : TimerInv s) :
    (id ≤ 0 → cancel s id = (s, -1, false)) ∧
    (0 < id → (∀ t ∈ s.active, t.id ≠ id) → (cancel s id).1 = s ∧ (cancel s id).2.1 = 0) ∧
    (∀ x, 0 < id → s.active.find? (fun t => t.id == id) = some x →
      (cancel s id).2.1 = 1 ∧
      (cancel s id).1 = { s with active := s.active.eraseP (fun t => t.id == id) } ∧
      x ∈ s.active ∧ x.id = id ∧ x ∉ (cancel s id).1.active ∧
      ∀ ops, x ∉ logged (exec (cancel s id).1 ops)) := by
  refine ⟨cancel_nonpos s, fun hid hno => ?_, fun x hid hf => ?_⟩
  · rw [cancel_none hid (List.find?_eq_none.2 fun t ht => by simpa [hasId] using hno t ht)]
    exact ⟨rfl, rfl⟩
  · have hm := List.mem_of_find?_eq_some hf
    have hgone : x ∉ s.active.eraseP (hasId id) := not_mem_eraseP_of_find hf h.nodup_parts.2.1
    rw [cancel_some hid hf]
    refine ⟨rfl, rfl, hm, by simpa using List.find?_some hf, hgone, fun ops hlog => ?_⟩
    refine (later_exec { s with active := s.active.eraseP (hasId id) } ops).not_mem
      (h.fresh x (List.mem_append_right _ hm)) (fun hin => ?_) (List.mem_append_left _ (List.mem_append_left _ hlog))
    rcases List.mem_append.1 hin with hin | hin
    · exact h.active_not_elsewhere hm hin
    · exact hgone hin

/-- Timer ids in use are positive and pairwise distinct as long as fewer than `LONG_MAX` timers
    have been set in total (the counter then never wraps), so `timer_cancel (id)` can only hit the
    timer the caller means.  (`bump_positive`: even after a wrap the id is positive.) -/
theorem ids_distinct (ops : List Op) (hw : (traceSets ops : Int) ≤ LONG_MAX) : IdInv (exec init ops) :=
  (room_exec (n := 0) ops ⟨idInv_init, by simpa [init] using hw⟩).1

/-- the id handed out is always positive (`assert (t->id > 0)`), also when the counter wraps -/
theorem bump_positive (id : Int) : 0 < bumpId id := bumpId_pos id

def idxOf (e : String) (l : List String) : Nat := l.idxOf e

/-- Lock discipline, from the generated event orders: the thread function releases the mutex after
    detaching and before dispatching, re-acquires it only after the dispatch loop, and the dispatch
    loop runs over the detached list; set and cancel touch the lists only between lock and unlock and
    signal after unlocking.  Hence a callback that calls `timer_set_*`/`timer_cancel` cannot
    deadlock on `_timer_mutex`. -/
theorem lock_free_during_dispatch :
    idxOf "detach?" threadEvents < idxOf "unlock" threadEvents ∧
    idxOf "unlock" threadEvents < idxOf "dispatch" threadEvents ∧
    idxOf "dispatch" threadEvents < idxOf "lock" threadEvents ∧
    idxOf "lock" threadEvents < idxOf "recycle" threadEvents ∧
    idxOf "recycle" threadEvents < idxOf "timedwait" threadEvents ∧
    dispatchOverDetached = true ∧
    (∀ e ∈ ["alloc", "idbump", "init", "walk", "link", "headtest"],
      idxOf "lock" setEvents < idxOf e setEvents ∧ idxOf e setEvents < idxOf "unlock" setEvents) ∧
    idxOf "unlock" setEvents < idxOf "signal?" setEvents ∧
    (∀ e ∈ ["walk", "unlink?", "headtest?"],
      idxOf "lock" cancelEvents < idxOf e cancelEvents ∧ idxOf e cancelEvents < idxOf "unlock" cancelEvents) ∧
    idxOf "unlock" cancelEvents < idxOf "signal?" cancelEvents := by
  decide +kernel

/-- Set/cancel from a running callback (any state, in particular while a batch is being
    dispatched) always return, preserve the invariant, and touch neither the batch being dispatched
    nor the log. -/
theorem callbacks_reentrant {s : State} (h : TimerInv s) (acts : List Act) :
    TimerInv (applyActs s acts).1 ∧ (applyActs s acts).1.batch = s.batch ∧
    (applyActs s acts).1.log = s.log ∧ TimerInv (run s acts) :=
  ⟨inv_applyActs h acts, (applyActs_frame s acts).1, (applyActs_frame s acts).2.1, inv_run h acts⟩

/-- A self re-arming callback stays "pending or being dispatched" forever: for every trace that
    respects the protocol (`RecursOK`: the callback always re-arms; other requests either do not
    cancel its timer or — like `gids_update` — set it again), for every clock sequence including
    arbitrary forward jumps. -/
theorem recurs {s : State} {c : Nat} (ops : List Op) (h : Pending c s) (hk : RecursOK c s ops) :
    Pending c (exec s ops) := by
  induction ops generalizing s with
  | nil => exact h
  | cons op r ih => exact ih (pending_step op h ⟨hk.1, trivial⟩) hk.2

/-- Issue 15 batching: a (possibly wrong, far-future) clock reading cannot make a recurring timer
    spin inside one scan.  Requests made by callbacks never add to the batch being dispatched — the
    re-armed timer goes to the active list, relative to a fresh clock read — so every `run`
    shortens the batch by one and the thread re-reads the clock after `length batch` callbacks. -/
theorem recurs_no_spin (s : State) (acts : List Act) (op : Op) :
    (run s acts).batch = s.batch.tail ∧
    (s.batch ≠ [] → (step s op).batch.length ≤ s.batch.length) := by
  refine ⟨run_batch s acts, fun hb => ?_⟩
  rw [step_batch hb]; cases op <;> simp

/-- The three periodic services re-arm themselves as the sources say now: each has exactly one
    `timer_set_relative (itself, …)`, skipped only when the service is disabled
    (`!replay_hash`; `interval_secs <= 0`; `_random_stir_secs <= 0`), and the purge period is
    60 s.  For each, the one-request behaviour `[setRel ms c]` satisfies `Rearms`. -/
theorem services_rearm :
    rearmSites.map (fun r => (r.callback, r.earlyReturns, r.guards)) =
      [("replay_purge", ["!replay_hash"], []),
       ("_gids_map_update", [], ["(gids->interval_secs > 0)"]),
       ("_random_stir_entropy", ["(_random_stir_secs <= 0)"], [])] ∧
    replayPurgeMs = REPLAY_PURGE_SECS * 1000 ∧ REPLAY_PURGE_SECS = 60 ∧
    (∀ (c : Nat) (s : State) (ms : Int), Rearms c s [Act.setRel ms c]) ∧
    (∀ (c : Nat) (s : State) (id : Int), Rearms c s [Act.cancel id, Act.setRel 0 c]) :=
  ⟨rfl, rfl, rfl, fun c s ms => rearms_last c s [] ms, fun c s id => rearms_last c s [.cancel id] 0⟩

/-- The F6 caller classes, as extracted from the sources: every caller of the timer API runs while
    the timer thread does not exist (a), on the timer thread (b), or holds the gids mutex (c). -/
theorem caller_classes :
    ∀ c ∈ callers, c.2.2.2 = "a" ∨ c.2.2.2 = "b" ∨ c.2.2.2 = "c" ∨ c.2.2.2 = "wrapper" := by
  decide

def sysExec (beh : Beh) (y : Sys) (ops : List SOp) : Sys := ops.foldl (sysStep beh) y

/-- Whenever the timer thread is blocked it is blocked on the right thing: in `pthread_cond_wait`
    only if nothing is pending, else in `pthread_cond_timedwait` with a deadline that is still in the
    future and not later than the expiry time of any pending timer.  This holds after every request
    from every thread because a request that changes the head signals (generated tests
    `t_prev_ptr == &_timer_active`), after every clock movement because the timed wait ends at its
    deadline, and after every thread step. -/
theorem no_missed_head (beh : Beh) (ops : List SOp) :
    SInv (sysExec beh {} ops) ∧ TimerInv (sysExec beh {} ops).st :=
  List.foldlRecOn ops (sysStep beh) (motive := fun y => SInv y ∧ TimerInv y.st) ⟨trivial, inv_init⟩
    fun _ h op _ => sysStep_inv beh h.1 h.2 op

/-- Hence no expired timer is ever left waiting: while the thread is blocked, no pending timer has
    `ts ≤ now` — for every interleaving of callers, clock movements and thread steps. -/
theorem no_expired_while_blocked (beh : Beh) (ops : List SOp)
    (hb : blocked (sysExec beh {} ops).thr = true) :
    ∀ t ∈ (sysExec beh {} ops).st.active, le t.ts (sysExec beh {} ops).st.now = false :=
  quiescent_none_expired (no_missed_head beh ops).1 hb

/-! non-vacuity: concrete traces -/

/-- two timers set for the same time and one earlier one; the clock jumps past all of them;
    they fire earliest first, ties in set order -/
example :
    (exec init [.ext [.setAbs (5, 0) 0, .setAbs (5, 0) 1, .setAbs (3, 0) 2], .tick (9, 0), .scan,
                .run [], .run [], .run []]).log.map (fun p => (p.1.cb, p.2)) =
      [(2, (9, 0)), (0, (9, 0)), (1, (9, 0))] := by decide

/-- cancel of a pending id returns 1 and the callback never runs; a second cancel returns 0 -/
example :
    let s := (applyActs init [.setAbs (5, 0) 7]).1
    (cancel s 1).2.1 = 1 ∧ (cancel (cancel s 1).1 1).2.1 = 0 ∧ (cancel s 0).2.1 = -1 ∧
    (exec (cancel s 1).1 [.tick (9, 0), .scan, .run []]).log = [] := by decide

/-- a self re-arming callback: the protocol hypothesis of `recurs` is satisfiable (the timer fires,
    re-arms; a `gids_update`-like caller cancels and re-sets it; the clock jumps; it fires again) -/
example : RecursOK 4 (applyActs init [.setRel 0 4]).1
    [.tick (1, 0), .scan, .run [.setRel 60000 4], .ext [.cancel 2, .setRel 0 4], .tick (1000000, 0), .scan,
     .run [.setRel 60000 4]] := by
  have hr : ∀ s', Rearms 4 s' [Act.setRel 60000 4] := fun s' => rearms_last 4 s' [] 60000
  -- one obligation per step of the trace; the clock and the scan have none
  exact ⟨trivial, trivial, recursOK_run hr ⟨Or.inr (rearms_last 4 _ [.cancel 2] 0), trivial, trivial,
    recursOK_run hr trivial⟩⟩

/-- … and the conclusion is not trivial: the same service without the re-arm is gone after one firing -/
example : ¬ Pending 4 (exec (applyActs init [.setRel 0 4]).1 [.tick (1, 0), .scan, .run []]) := by
  unfold Pending; decide

/-- the thread sleeps on the head and is woken by a new head -/
example :
    (sysExec (fun _ _ => []) {} [.thread, .ext [.setAbs (10, 0) 0], .thread, .ext [.setAbs (5, 0) 1]]).thr = .running ∧
    (sysExec (fun _ _ => []) {} [.thread, .ext [.setAbs (10, 0) 0], .thread, .ext [.setAbs (5, 0) 1], .thread]).thr
      = .timedWait (5, 0) ∧
    (sysExec (fun _ _ => []) {} [.thread, .ext [.setAbs (10, 0) 0], .thread, .ext [.setAbs (15, 0) 1]]).thr
      = .timedWait (10, 0) := by decide

end Munge.C18
