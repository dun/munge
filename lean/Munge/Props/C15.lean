import Munge.Lemmas.Start
/-
C15 — one daemon per socket; a crash never blocks the next start.

The program every process runs (`Munge.Start.prog`) is compiled from the callee lists that the generator extracts from
`src/munged/{munged,lock,conf,random}.c` on every run (`Munge.Gen.Start`), so the theorems that mention `prog` or
`Gen.Start.*` are re-checked against what the C source says now; the theorems about an arbitrary program `P` are the generic
facts they are instances of.
-/
namespace Munge.C15
open Munge.Start Munge.Gen.Start

/-- all system calls of `main`, start-up to exit, with helpers inlined and the guard each one sits under -/
def allCalls : List Call := flatMain

/-- `lock_create` takes the lock exactly once, with `F_SETLK` (never the blocking `F_SETLKW`), as a write lock
    (`F_WRLCK`) on the whole file (`l_whence = SEEK_SET, l_start = 0, l_len = 0`). -/
theorem lock_is_exclusive :
    (allCalls.filter fun c => match c.sys with | .setlk _ _ | .setlkw _ _ => true | _ => false).map (·.sys)
      = [.setlk true true] := by
  decide +kernel

/-- When `F_SETLK` reports a conflicting lock, and when it fails for any other reason, every branch ends in a fatal
    logger (`log_err_or_warn (conf->got_force, …)`): without --force the process exits before the next call. -/
theorem lock_failure_is_fatal : lockBusyExits = true ∧ lockErrorExits = true := by
  decide

/-- Call order of the current source: during start-up the lock is taken before the socket name is unlinked, the
    socket is bound and listened on, and the pid file is replaced, in this order; in shutdown the socket name is
    unlinked before the lock file is, and the lock file is unlinked before its descriptor is closed. -/
theorem lock_before_unlink :
    prog.startup.idxOf .setlk < prog.startup.idxOf (.unlink .sock) ∧
    prog.startup.idxOf (.unlink .sock) < prog.startup.idxOf .bind ∧
    prog.startup.idxOf .bind < prog.startup.idxOf .listen ∧
    prog.startup.idxOf .listen < prog.startup.idxOf (.unlink .pid) ∧
    prog.startup.idxOf (.unlink .pid) < prog.startup.length ∧
    prog.shutdown.idxOf (.unlink .sock) < prog.shutdown.idxOf (.unlink .lock) ∧
    prog.shutdown.idxOf (.unlink .lock) < prog.shutdown.idxOf .closeLock ∧
    prog.shutdown.idxOf .closeLock < prog.shutdown.length := by
  decide +kernel

/-- The extracted program is well-formed (`WF`): its call sequences respect `allowed`.  (What else the generic theorems
    ask of a program is checked with it in `prog_meets_hypotheses`.) -/
theorem program_well_formed : WF prog = true :=
  prog_meets_hypotheses.1

/-- **Generic, full strength.**  For every well-formed program that re-validates the locked descriptor against the
    lock-file name, every schedule — any number of concurrent start-ups, clean shutdowns overlapping them, crashes
    at any point — leads to a state with at most one owner, which holds the lock on the named inode. -/
theorem single_owner_of_revalidate (P : Prog) (hwf : WF P = true) (hrv : Revalidates P = true) (evs : List Event) :
    SingleOwner (run P init evs) :=
  singleOwner_of_inv (inv_run ⟨hwf, fun _ => hrv⟩ evs (inv_init P true) (fun hr => by cases hr))

/-- The schedule of finding F5: A serves; B starts and has opened the lock file (its next call is the F_SETLK);
    A gets SIGTERM and completes its shutdown; B continues; C starts. -/
def toctouTrace (P : Prog) : List Event :=
  let n := P.startup.length
  let k := P.startup.idxOf .setlk
  let m := P.shutdown.length
  [.start 1] ++ List.replicate n (.exec 1) ++ [.start 2] ++ List.replicate k (.exec 2) ++ [.term 1] ++
    List.replicate m (.exec 1) ++ List.replicate (n - k) (.exec 2) ++ [.start 3] ++ List.replicate n (.exec 3)

/-- **The full-strength invariant is false when `lock_create` only locks** (F5).  On the extracted program without a
    re-validation step the schedule above ends with B and C both owners and both serving, B's lock being on an inode
    no name refers to, and C having replaced B's socket. -/
theorem toctou_reachable :
    let s := run (stripReval prog) init (toctouTrace (stripReval prog))
    Owner s 2 ∧ Owner s 3 ∧ ((s.procs 2).phase = .serving ∧ (s.procs 3).phase = .serving) ∧
    s.names .lock ≠ (s.procs 2).lockFd ∧ serverOf s = some 3 ∧ ¬ SingleOwner s := by
  have h : (let s := run (stripReval prog) init (toctouTrace (stripReval prog))
            ownB s 2 && ownB s 3 && servingB s 2 && servingB s 3 && (s.names .lock != (s.procs 2).lockFd) &&
            (serverOf s == some 3)) = true := by decide +kernel
  simp only [Bool.and_eq_true, servingB, beq_iff_eq, bne_iff_ne] at h
  obtain ⟨⟨⟨⟨⟨h1, h2⟩, h3⟩, h4⟩, h5⟩, h6⟩ := h
  refine ⟨h1, h2, ⟨h3, h4⟩, h5, h6, fun hs => ?_⟩
  exact absurd (hs.1 2 3 h1 h2) (by decide)

/-- **What holds of the current code.**  On every schedule that is quiet — whenever an instance unlinks the lock file
    (the start of the window `unlink(lockfile) … close(lockfile_fd)` of `sock_destroy`), no other start-up has the
    lock file open without owning the lock — there is at most one owner, whatever else is interleaved or crashes.
    (A start-up cannot obtain a descriptor for the unlinked inode later, so this is exactly "no start-up holds the
    lock file open during the window".) -/
theorem single_owner_partial (evs : List Event) (hq : QuietRun prog init evs) :
    SingleOwner (run prog init evs) :=
  singleOwner_of_inv (inv_run (prog_wfr false) evs (inv_init prog false) (fun _ => hq))

/-- A start-up that is not the owner — in particular one that will find the lock held — harms nobody: no call it
    makes changes what the socket name or the pid-file name refer to, removes the lock-file name, or touches another
    process's listening socket, record lock or state.  On every schedule, with or without re-validation. -/
theorem loser_leaves_owner_untouched (evs : List Event) (p : Pid) :
    let s := run prog init evs
    (s.procs p).phase = .starting → ¬ Owner s p → Untouched p s (step prog s (.exec p)) := by
  intro s hst hown
  exact loser_harmless (baseInv_run (prog_wfr false) evs (baseInv_init prog false)).procs p hst (by simpa [Owner] using hown)

/-- … and finding the lock held is the end of it: the next state has it exited with an error, and a dead process
    never moves again (so it executes none of unlink-socket / bind / write-pidfile). -/
theorem lock_held_exits (P : Prog) (s : State) (p o : Pid) (i : Ino) (rest : List Op)
    (hph : (s.procs p).phase = .starting) (htd : (s.procs p).todo = .setlk :: rest)
    (hfd : (s.procs p).lockFd = some i) (hbusy : s.lockOwner i = some o) (hne : o ≠ p) :
    ((step P s (.exec p)).procs p).phase = .exited false ∧
    ∀ evs, ((run P (step P s (.exec p)) evs).procs p).phase = .exited false := by
  have h1 : ((step P s (.exec p)).procs p).phase = .exited false := by
    simp [step, hph, htd, execOp, effect, hfd, hbusy, hne, fail, kill]
  exact ⟨h1, fun evs => by rw [dead_stays_dead P p false evs (.inl h1)]; exact h1⟩

/-- **Full-strength obligation.**  `lock_create` re-validates, and therefore every schedule of the extracted
    program has at most one owner.  (False of a source tree whose `lock_create` only locks: see `toctou_reachable`.) -/
theorem single_owner :
    lockRevalidates = true ∧ ∀ evs : List Event, SingleOwner (run prog init evs) :=
  ⟨by decide, fun evs => single_owner_of_revalidate prog program_well_formed prog_meets_hypotheses.2.1 evs⟩

/-- From every reachable state in which no process is alive — whatever was killed, at whatever point of start-up,
    service or shutdown, and whatever names it left behind — a fresh start without --force, running alone, completes:
    it is serving, it is the owner, and a client connecting to the socket path reaches it. -/
theorem restart_after_crash (evs : List Event) (p : Pid) :
    let s := run prog init evs
    (∀ q, (s.procs q).phase.live = false) → (s.procs p).phase = .idle →
    let s' := run prog s (.start p :: List.replicate prog.startup.length (.exec p))
    (s'.procs p).phase = .serving ∧ serverOf s' = some p ∧ Owner s' p := by
  intro s hdead hidle
  have hb : BaseInv prog false s := baseInv_run (prog_wfr false) evs (baseInv_init prog false)
  exact restart_generic (prog_wfr false) prog_meets_hypotheses.2.2.1 hb p hidle hdead

/-- After a shutdown that runs to completion, the socket, the lock file and the pid file are gone, a seed file
    exists, and the exit status is 0 — from any state in which the process is serving. -/
theorem clean_stop (s : State) (p : Pid) (hserv : (s.procs p).phase = .serving) :
    let s' := run prog s (.term p :: List.replicate prog.shutdown.length (.exec p))
    s'.names .sock = none ∧ s'.names .lock = none ∧ s'.names .pid = none ∧ s'.names .seed ≠ none ∧
    (s'.procs p).phase = .exited true :=
  clean_stop_generic prog_meets_hypotheses.2.2.2.1 s p hserv

/-- A stops; as soon as it has unlinked the lock file and closed it, B starts and serves; A's remaining calls follow. -/
def pidTailTrace (P : Prog) : List Event :=
  let n := P.startup.length
  let k := P.shutdown.idxOf .closeLock + 1
  [.start 1] ++ List.replicate n (.exec 1) ++ [.term 1] ++ List.replicate k (.exec 1) ++
    [.start 2] ++ List.replicate n (.exec 2) ++ List.replicate (P.shutdown.length - k) (.exec 1)

/-- **Recorded, not part of C15 as stated** (and independent of re-validation): `destroy_conf` unlinks the pid file
    after `sock_destroy` has given the lock up, so an instance that starts during the tail of another's shutdown is
    the single owner and serves, but loses its pid file.  (`allowed` therefore demands ownership for the pid-file calls
    only during start-up.)  Shown on the real binary with `strace -e inject=unlink:delay_enter=…:when=6`. -/
theorem pidfile_tail_race_reachable :
    let s := run (addReval prog) init (pidTailTrace (addReval prog))
    Owner s 2 ∧ (s.procs 2).phase = .serving ∧ serverOf s = some 2 ∧ SingleOwner s ∧ s.names .pid = none := by
  have h : (let s := run (addReval prog) init (pidTailTrace (addReval prog))
            ownB s 2 && servingB s 2 && (serverOf s == some 2) && (s.names .pid == none)) = true := by decide +kernel
  simp only [Bool.and_eq_true, servingB, beq_iff_eq] at h
  obtain ⟨⟨⟨h1, h2⟩, h3⟩, h4⟩ := h
  exact ⟨h1, h2, h3, single_owner_of_revalidate _ prog_meets_hypotheses.2.2.2.2.1 prog_meets_hypotheses.2.2.2.2.2 _, h4⟩

/-- a start-up alone reaches serving as owner (so `Owner`, `serving` are inhabited in reachable states) -/
theorem sanity_start_alone : let s := run prog init (.start 1 :: List.replicate prog.startup.length (.exec 1))
    (ownB s 1 && servingB s 1 && (serverOf s == some 1)) = true := by decide +kernel

/-- a second start while the first serves exits with an error and the first still serves on the same inode -/
theorem sanity_second_start_refused : let s := run prog init (.start 1 :: List.replicate prog.startup.length (.exec 1))
    let s' := run prog s (.start 2 :: List.replicate prog.startup.length (.exec 2))
    ((s'.procs 2).phase == .exited false && (serverOf s' == some 1) && (s'.names .sock == s.names .sock) &&
     (s'.names .pid == s.names .pid) && (s'.names .lock == s.names .lock)) = true := by decide +kernel

/-- with a re-validation step the F5 schedule ends with B refused and C the only owner -/
theorem sanity_revalidation_closes_window : let s := run (addReval prog) init (toctouTrace (addReval prog))
    ((s.procs 2).phase == .exited false && ownB s 3 && !ownB s 2 && (serverOf s == some 3)) = true := by decide +kernel

/-- the generic theorem is not vacuous: the extracted program with a re-validation step satisfies its hypotheses -/
theorem sanity_repaired_program_well_formed : WF (addReval prog) = true ∧ Revalidates (addReval prog) = true :=
  prog_meets_hypotheses.2.2.2.2

/-- sequential schedules are quiet -/
example : QuietRun prog init [.start 1, .exec 1] := by
  simp only [QuietRun, and_true]
  refine ⟨fun r hr => (by cases hr), fun r hr h => ?_⟩
  cases hr
  exact absurd h (by decide +kernel)

end Munge.C15
