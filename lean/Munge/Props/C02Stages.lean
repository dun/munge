import Munge.Gen.Stages
import Munge.Model.Cred
import Munge.Lemmas.Kernel
/-!
# C02 / C09 (stages): the stage functions of dec.c and enc.c that call the primitives, the clock or `auth_recv`, as translated

Every primitive call is an event carrying the lengths (and buffer identities) it is given; its return value, and what it stores
through `&n`, are inputs - so the theorems hold for every behaviour of the primitives.
-/
namespace Munge.C02Stages
open Munge.C Munge.Gen.Stages
open scoped Munge.Kernel

/-! ## `dec_validate_mac` -/

/-- **A credential passes the MAC stage exactly when** every MAC primitive call succeeded, the digest has the length the
    credential's MAC field has, the comparison over it reports equality, AND no earlier stage left an error in the message
    (the deferred padding failure of `dec_decrypt`).  Nothing else leads to `return 0`. -/
theorem mac_stage_accepts_iff (mac en ol il ml kl op ip kp mp ri ru rc ru2 nf rf rc2 rm : Int) :
    (dec_validate_mac mac en ol il ml kl op ip kp mp ri ru rc ru2 nf rf rc2 rm).ret = 0 ↔
      0 ≤ ri ∧ 0 ≤ ru ∧ 0 ≤ ru2 ∧ 0 ≤ rf ∧ 0 ≤ rc2 ∧ nf = ml ∧ rm = 0 ∧ en = 0 := by
  kcases dec_validate_mac <;> simp <;> omega

/-- **What is authenticated**: on the accepting path the MAC is keyed with the daemon's MAC key, of the credential's MAC type,
    fed the outer layer (all `outer_len` bytes) and then the inner layer (all `inner_len` bytes), finalised, and compared with
    the received MAC over `mac_len` bytes - in that order, each exactly once. -/
theorem mac_covers_outer_then_inner (mac en ol il ml kl op ip kp mp ri ru rc ru2 nf rf rc2 rm : Int)
    (h : (dec_validate_mac mac en ol il ml kl op ip kp mp ri ru rc ru2 nf rf rc2 rm).ret = 0) :
    (dec_validate_mac mac en ol il ml kl op ip kp mp ri ru rc ru2 nf rf rc2 rm).events =
      [("mac_init", [mac, kl]), ("mac_update", [op, ol]), ("mac_update", [ip, il]), ("mac_final", []), ("mac_cleanup", []),
       ("crypto_memcmp", [wrapU64 ml])] := by
  kcases dec_validate_mac <;> first | rfl | simp at h

/-- **A wrong MAC is the generic invalid-credential error**: with working primitives, a digest of another length or a
    comparison reporting a difference gives -1 with `EMUNGE_CRED_INVALID` (14), whatever else is in the message. -/
theorem mac_mismatch_is_invalid (mac en ol il ml kl op ip kp mp ri ru rc ru2 nf rf rc2 rm : Int)
    (hp : 0 ≤ ri ∧ 0 ≤ ru ∧ 0 ≤ ru2 ∧ 0 ≤ rf ∧ 0 ≤ rc2) (hm : nf ≠ ml ∨ rm ≠ 0) :
    let o := dec_validate_mac mac en ol il ml kl op ip kp mp ri ru rc ru2 nf rf rc2 rm
    o.ret = -1 ∧ o.err = 14 := by
  kcases dec_validate_mac <;> simp <;> omega

/-- **A deferred error refuses a credential whose MAC is right** (the padding failure that `dec_decrypt` recorded): -1, and
    no further error is set here - the reply keeps the earlier (generic) one. -/
theorem deferred_error_refuses (mac en ol il ml kl op ip kp mp ri ru rc ru2 nf rf rc2 : Int)
    (hp : 0 ≤ ri ∧ 0 ≤ ru ∧ 0 ≤ ru2 ∧ 0 ≤ rf ∧ 0 ≤ rc2) (he : en ≠ 0) :
    let o := dec_validate_mac mac en ol il ml kl op ip kp mp ri ru rc ru2 ml rf rc2 0
    o.ret = -1 ∧ o.count "m_msg_set_err" = 0 ∧ o.count "crypto_memcmp" = 1 := by
  kcases dec_validate_mac <;> simp <;> omega

/-- **The MAC context is released exactly once** on every path on which it was initialised (never when `mac_init` failed). -/
theorem mac_context_released_once (mac en ol il ml kl op ip kp mp ri ru rc ru2 nf rf rc2 rm : Int) :
    (dec_validate_mac mac en ol il ml kl op ip kp mp ri ru rc ru2 nf rf rc2 rm).count "mac_cleanup" = if ri < 0 then 0 else 1 := by
  kcases dec_validate_mac <;> simp <;> omega

/-! ## `dec_decrypt` -/

/-- **An unencrypted credential is not touched** (no key derivation, no buffer). -/
theorem cipher_none_untouched (mac il ml dl dp ip mr nd rb ri nu ru rc nfn rf rc2 : Int) (ms bs : Int → Int) :
    dec_decrypt 0 mac il ml dl dp ip mr nd rb ri nu ru rc nfn rf rc2 ms bs = { ret := 0, writes := [], events := [] } := by
  kcases dec_decrypt <;> first | rfl | contradiction

/-- **A padding failure is deferred behind the MAC** (Vaudenay): when only `cipher_final` fails, `dec_decrypt` records
    `EMUNGE_CRED_INVALID` but RETURNS 0 with the plaintext produced so far, so the MAC is still computed - over the same
    kind of data as for a good credential - and the reply is the one a MAC mismatch gets. -/
theorem padding_failure_is_deferred (c mac il ml dl dp ip mr nd rb ri nu ru rc nfn rf rc2 : Int) (ms bs : Int → Int)
    (hc : c ≠ 0) (hms : 0 < ms mac) (hbs : 0 < bs c) (hmr : mr ≠ 0)
    (hok : 0 ≤ rb ∧ 0 ≤ ri ∧ 0 ≤ ru ∧ 0 ≤ rc2) (hf : rf < 0) :
    let o := dec_decrypt c mac il ml dl dp ip mr nd rb ri nu ru rc nfn rf rc2 ms bs
    o.ret = 0 ∧ o.err = 14 ∧ o.count "free" = 0 ∧ o.count "cipher_cleanup" = 1 := by
  kcases dec_decrypt with [hc, hmr] <;> simp at * <;> omega

/-- **Key derivation and buffer sizes**: on success the DEK is `mac_block` over the received MAC (`mac_len` bytes) under the
    daemon's DEK key, the scratch buffer has `inner_len + block size` bytes, the cipher is fed the whole inner layer once, and
    the plaintext length handed on is what `cipher_update` and `cipher_final` reported. -/
theorem decrypt_success_shape (c mac il ml dl dp ip mr nd rb ri nu ru rc nfn rf rc2 : Int) (ms bs : Int → Int)
    (hil : 0 ≤ il ∧ il ≤ 2147480000) (hbs : bs c ≤ 64) (hn : 0 ≤ nu ∧ 0 ≤ nfn ∧ nu + nfn ≤ il + bs c) (hf : 0 ≤ rf)
    (h : (dec_decrypt c mac il ml dl dp ip mr nd rb ri nu ru rc nfn rf rc2 ms bs).ret = 0) (hc : c ≠ 0) :
    let o := dec_decrypt c mac il ml dl dp ip mr nd rb ri nu ru rc nfn rf rc2 ms bs
    o.events = [("mac_block", [dl, ml]), ("malloc", [il + bs c]), ("cipher_init", [c, 0]), ("cipher_update", [il]),
                ("cipher_final", []), ("cipher_cleanup", [])] ∧
    o.get "c.inner_len" (-1) = nu + nfn ∧ o.get "c.inner_mem_len" (-1) = il + bs c ∧
    o.get "c.inner_len" (-1) ≤ o.get "c.inner_mem_len" (-1) := by
  kcases dec_decrypt <;> simp [wrapS32, wrapU64] at h ⊢ <;> omega

/-- **Every failure after the allocation wipes and frees the scratch buffer exactly once**, and reports -1. -/
theorem decrypt_failure_frees (c mac il ml dl dp ip mr nd rb ri nu ru rc nfn rf rc2 : Int) (ms bs : Int → Int)
    (hc : c ≠ 0) (hms : 0 < ms mac) (hbs : 0 < bs c) (hmr : mr ≠ 0) (hrb : 0 ≤ rb)
    (h : (dec_decrypt c mac il ml dl dp ip mr nd rb ri nu ru rc nfn rf rc2 ms bs).ret ≠ 0) :
    let o := dec_decrypt c mac il ml dl dp ip mr nd rb ri nu ru rc nfn rf rc2 ms bs
    o.ret = -1 ∧ o.count "free" = 1 ∧ o.count "set:buf" = 1 := by
  kcases dec_decrypt with [hc, hmr] <;> simp at * <;> omega

/-! ## `enc_compress` (C01 / C10): the zip byte of the outer header says NONE exactly when the inner layer is left uncompressed -/

/-- the outer header's zip byte is overwritten (through `outer_zip_ref`) with NONE -/
def patchesHeader (o : KOut) : Prop := ("wr", [0, 1, 0, 0]) ∈ o.events
instance (o : KOut) : Decidable (patchesHeader o) := by unfold patchesHeader; infer_instance

/-- **Compression that does not shrink the inner layer falls back to "not compressed" consistently**: the request's zip type
    becomes NONE, the zip byte already packed into the outer header is overwritten with NONE through `outer_zip_ref`, the
    compressed scratch buffer is wiped and freed, and the inner layer is left as it was. -/
theorem fallback_patches_header (z il iml ip imp mr rl nz rb : Int) (zr : Int → Int)
    (hz : z ≠ 0) (hok : 0 ≤ rl ∧ mr ≠ 0 ∧ 0 ≤ rb) (hbig : nz ≥ il) :
    let o := enc_compress z il iml ip imp mr rl nz rb zr
    o.ret = 0 ∧ o.get "c.msg.zip" z = 0 ∧ patchesHeader o ∧ o.written "c.inner" = none ∧ o.written "c.inner_len" = none ∧
    o.count "free:buf" = 1 ∧ o.count "free:c.inner_mem" = 0 := by
  kcases enc_compress <;> first | omega | simp [patchesHeader]

/-- **Compression that shrinks it replaces the inner layer**: the inner layer becomes the compressed block of the reported
    length, the old one is wiped and freed, the zip type and the outer header stay as packed. -/
theorem compressed_replaces_inner (z il iml ip imp mr rl nz rb : Int) (zr : Int → Int)
    (hz : z ≠ 0) (hok : 0 ≤ rl ∧ mr ≠ 0 ∧ 0 ≤ rb) (hsmall : nz < il) :
    let o := enc_compress z il iml ip imp mr rl nz rb zr
    o.ret = 0 ∧ o.written "c.msg.zip" = none ∧ ¬ patchesHeader o ∧ o.get "c.inner" 0 = mr ∧ o.get "c.inner_len" (-1) = nz ∧
    o.count "free:c.inner_mem" = 1 ∧ o.count "free:buf" = 0 := by
  kcases enc_compress <;> first | omega | simp [patchesHeader]

/-- **A failing compression fails the encode** (it never silently emits an inconsistent credential): -1, an error is set, the
    zip type, the outer header and the inner layer are untouched, and the scratch buffer - if it was allocated - is freed once. -/
theorem compression_failure_is_an_error (z il iml ip imp mr rl nz rb : Int) (zr : Int → Int)
    (hz : z ≠ 0) (hfail : rl < 0 ∨ mr = 0 ∨ rb < 0) :
    let o := enc_compress z il iml ip imp mr rl nz rb zr
    o.ret = -1 ∧ 0 < o.count "m_msg_set_err" ∧ o.writes = [] ∧ ¬ patchesHeader o ∧
    o.count "free:buf" = (if 0 < rl ∧ mr ≠ 0 then 1 else 0) := by
  kcases enc_compress with [hz] <;> simp [patchesHeader] at * <;> omega

/-- **Success says which of the two it was**: after a successful `enc_compress` of a compressed request, the header was
    patched exactly when the inner layer was NOT replaced. -/
theorem header_says_what_the_inner_is (z il iml ip imp mr rl nz rb : Int) (zr : Int → Int) (hz : z ≠ 0)
    (h : (enc_compress z il iml ip imp mr rl nz rb zr).ret = 0) :
    patchesHeader (enc_compress z il iml ip imp mr rl nz rb zr) ↔ (enc_compress z il iml ip imp mr rl nz rb zr).written "c.inner" = none := by
  kcases enc_compress <;> first | contradiction | simp [patchesHeader] at h ⊢

/-! ## `enc_mac`: the encoder authenticates the same bytes, in the same order -/

/-- the MAC-feeding calls of an event list (initialisation and updates, with their arguments) -/
def macFeed (evs : List (String × List Int)) : List (String × List Int) :=
  evs.filter fun e => e.1 == "mac_init" || e.1 == "mac_update"

/-- **The encoder MACs the outer layer, then the inner layer, each whole, under the daemon's MAC key**, and its digest length is
    what `mac_size` reports for the requested type. -/
theorem enc_mac_covers_outer_then_inner (mac ol il kl op ip kp ri ru rc ru2 nf rf rc2 : Int) (ms : Int → Int)
    (h : (enc_mac mac ol il kl op ip kp ri ru rc ru2 nf rf rc2 ms).ret = 0) :
    macFeed (enc_mac mac ol il kl op ip kp ri ru rc ru2 nf rf rc2 ms).events =
      [("mac_init", [mac, kl]), ("mac_update", [op, ol]), ("mac_update", [ip, il])] ∧
    (enc_mac mac ol il kl op ip kp ri ru rc ru2 nf rf rc2 ms).get "c.mac_len" (-1) = ms mac ∧ 0 < ms mac ∧
    (enc_mac mac ol il kl op ip kp ri ru rc ru2 nf rf rc2 ms).count "mac_final" = 1 ∧
    (enc_mac mac ol il kl op ip kp ri ru rc ru2 nf rf rc2 ms).count "mac_cleanup" = 1 := by
  kcases enc_mac <;> simp [macFeed] at h ⊢
  omega

/-- **Encoder and decoder feed their MACs identically**: for the same layers and key, the initialisation and update calls of a
    successful `enc_mac` and of an accepting `dec_validate_mac` are the same list. -/
theorem encoder_and_decoder_mac_the_same_bytes (mac ol il kl op ip kp : Int)
    (ri ru rc ru2 nf rf rc2 : Int) (ms : Int → Int) (en ml mp ri' ru' rc' ru2' nf' rf' rc2' rm' : Int)
    (he : (enc_mac mac ol il kl op ip kp ri ru rc ru2 nf rf rc2 ms).ret = 0)
    (hd : (dec_validate_mac mac en ol il ml kl op ip kp mp ri' ru' rc' ru2' nf' rf' rc2' rm').ret = 0) :
    macFeed (enc_mac mac ol il kl op ip kp ri ru rc ru2 nf rf rc2 ms).events =
    macFeed (dec_validate_mac mac en ol il ml kl op ip kp mp ri' ru' rc' ru2' nf' rf' rc2' rm').events := by
  rw [(enc_mac_covers_outer_then_inner mac ol il kl op ip kp ri ru rc ru2 nf rf rc2 ms he).1,
    mac_covers_outer_then_inner mac en ol il ml kl op ip kp mp ri' ru' rc' ru2' nf' rf' rc2' rm' hd]
  rfl

/-! ## `enc_encrypt`: the mirror image of `dec_decrypt` -/

/-- **Encryption derives its key the way decryption does and replaces the plaintext**: on success the DEK is `mac_block` over
    the credential's MAC (`mac_len` bytes) under the daemon's DEK key - the same call with the same arguments as in
    `dec_decrypt` -, the cipher is initialised for ENCRYPTION and fed the whole inner layer once, the scratch buffer has
    `inner_len + block size` bytes, and the plaintext inner buffer is wiped and freed exactly once. -/
theorem encrypt_success_shape (c mac il iml ml dl dp ip imp mr nd rb ri nu ru rc nfn rf rc2 : Int) (ms bs : Int → Int)
    (hil : 0 ≤ il ∧ il ≤ 2147480000) (hbs : bs c ≤ 64) (hn : 0 ≤ nu ∧ 0 ≤ nfn ∧ nu + nfn ≤ il + bs c)
    (h : (enc_encrypt c mac il iml ml dl dp ip imp mr nd rb ri nu ru rc nfn rf rc2 ms bs).ret = 0) (hc : c ≠ 0) :
    let o := enc_encrypt c mac il iml ml dl dp ip imp mr nd rb ri nu ru rc nfn rf rc2 ms bs
    o.events = [("mac_block", [dl, ml]), ("malloc", [il + bs c]), ("cipher_init", [c, 1]), ("cipher_update", [il]),
                ("cipher_final", []), ("cipher_cleanup", []), ("set:c.inner_mem", [0, wrapU64 iml]), ("free:c.inner_mem", [])] ∧
    o.get "c.inner_len" (-1) = nu + nfn ∧ o.get "c.inner_len" (-1) ≤ o.get "c.inner_mem_len" (-1) := by
  kcases enc_encrypt <;> simp [wrapS32, wrapU64] at h ⊢ <;> omega

/-- **Unlike decryption, a failing `cipher_final` fails the encode**, and every failure after the allocation wipes and frees
    the scratch buffer once while the plaintext inner layer stays in place (no half-encrypted credential is emitted). -/
theorem encrypt_failure_is_an_error (c mac il iml ml dl dp ip imp mr nd rb ri nu ru rc nfn rf rc2 : Int) (ms bs : Int → Int)
    (hc : c ≠ 0) (hms : 0 < ms mac) (hbs : 0 < bs c) (hmr : mr ≠ 0) (hrb : 0 ≤ rb)
    (hf : ri < 0 ∨ ru < 0 ∨ rf < 0 ∨ rc2 < 0) :
    let o := enc_encrypt c mac il iml ml dl dp ip imp mr nd rb ri nu ru rc nfn rf rc2 ms bs
    o.ret = -1 ∧ o.count "free:buf" = 1 ∧ o.count "free:c.inner_mem" = 0 ∧ o.written "c.inner" = none := by
  kcases enc_encrypt with [hc, hmr] <;> simp at * <;> omega

/-! ## `enc_init`, `enc_timestamp` (C05, C06): fresh salt and IV of the right lengths, the daemon's clock -/

/-- **Every credential gets `MUNGE_CRED_SALT_LEN` = 8 fresh salt bytes - drawn AFTER the length is set - and, when encrypted, an
    IV of exactly the cipher's IV length** (identical requests in one second therefore differ: C05's "distinct credentials");
    an unencrypted credential has no IV. -/
theorem salt_and_iv_are_drawn (c sp ip sl0 il0 r1 r2 : Int) (ivs : Int → Int) (h : (enc_init c sp ip sl0 il0 r1 r2 ivs).ret = 0) :
    (enc_init c sp ip sl0 il0 r1 r2 ivs).get "c.salt_len" (-1) = 8 ∧
    (enc_init c sp ip sl0 il0 r1 r2 ivs).events.head? = some ("random_pseudo_bytes", [sp, 8]) ∧
    (enc_init c sp ip sl0 il0 r1 r2 ivs).get "c.iv_len" (-1) = (if c = 0 then 0 else ivs c) ∧
    ((enc_init c sp ip sl0 il0 r1 r2 ivs).count "random_pseudo_bytes" = if c ≠ 0 ∧ 0 < ivs c then 2 else 1) ∧
    (c ≠ 0 → 0 < ivs c → (enc_init c sp ip sl0 il0 r1 r2 ivs).events.getLast? = some ("random_pseudo_bytes", [ip, ivs c])) := by
  kcases enc_init <;> simp [*] at h ⊢ <;> omega

/-- **The encode time is the daemon's clock** (truncated to the 32-bit field), the decode time is cleared; a failing clock
    fails the encode. -/
theorem encode_time_is_the_clock (now rt : Int) :
    (rt ≠ -1 → (enc_timestamp now rt).ret = 0 ∧ (enc_timestamp now rt).get "c.msg.time0" (-1) = now % 4294967296 ∧
               (enc_timestamp now rt).get "c.msg.time1" (-1) = 0) ∧
    (rt = -1 → (enc_timestamp now rt).ret = -1 ∧ (enc_timestamp now rt).writes = []) := by
  kcases enc_timestamp <;> simp [*, wrapU32]

/-! ## `enc_authenticate`, `dec_authenticate`, `dec_timestamp` (C03, C06): identity from the kernel query, time from the clock -/

/-- **The client identity of an encode is exactly what `auth_recv` (the kernel's peer-credential query) stored** - no other
    value is written to `client_uid` / `client_gid` by this stage - and a failing query fails the request. -/
theorem enc_identity_is_the_kernels (ku kg r : Int) :
    (enc_authenticate ku kg r).count "auth_recv" = 1 ∧
    (r = 0 → (enc_authenticate ku kg r).ret = 0 ∧ (enc_authenticate ku kg r).writes = [("c.msg.client_uid", ku), ("c.msg.client_gid", kg)]) ∧
    (r ≠ 0 → (enc_authenticate ku kg r).ret = -1 ∧ (enc_authenticate ku kg r).err = 1) := by
  kcases enc_authenticate <;> simp [*]

/-- the same for a decode -/
theorem dec_identity_is_the_kernels (ku kg r : Int) :
    (dec_authenticate ku kg r).count "auth_recv" = 1 ∧
    (r = 0 → (dec_authenticate ku kg r).ret = 0 ∧ (dec_authenticate ku kg r).writes = [("c.msg.client_uid", ku), ("c.msg.client_gid", kg)]) ∧
    (r ≠ 0 → (dec_authenticate ku kg r).ret = -1 ∧ (dec_authenticate ku kg r).err = 1) := by
  kcases dec_authenticate <;> simp [*]

/-- **The decode time is the daemon's clock** (32-bit field), the encode-time field is cleared until the credential supplies it. -/
theorem decode_time_is_the_clock (now rt : Int) :
    (rt ≠ -1 → (dec_timestamp now rt).ret = 0 ∧ (dec_timestamp now rt).get "c.msg.time1" (-1) = now % 4294967296 ∧
               (dec_timestamp now rt).get "c.msg.time0" (-1) = 0) ∧
    (rt = -1 → (dec_timestamp now rt).ret = -1 ∧ (dec_timestamp now rt).writes = []) := by
  kcases dec_timestamp <;> simp [*, wrapU32]

/-- **Encoder and decoder derive the data-encryption key by the same call**: `mac_block` under the daemon's DEK key over the
    credential's MAC, `mac_len` bytes - the first primitive call of a successful `enc_encrypt` and of a successful
    `dec_decrypt` carry the same arguments. -/
theorem encoder_and_decoder_derive_the_same_dek
    (c mac il iml ml dl dp ip imp mr nd rb ri nu ru rc nfn rf rc2 : Int) (ms bs : Int → Int)
    (mr' nd' rb' ri' nu' ru' rc' nfn' rf' rc2' il' ip' : Int)
    (hil : 0 ≤ il ∧ il ≤ 2147480000) (hbs : bs c ≤ 64) (hn : 0 ≤ nu ∧ 0 ≤ nfn ∧ nu + nfn ≤ il + bs c)
    (hil' : 0 ≤ il' ∧ il' ≤ 2147480000) (hn' : 0 ≤ nu' ∧ 0 ≤ nfn' ∧ nu' + nfn' ≤ il' + bs c) (hf' : 0 ≤ rf') (hc : c ≠ 0)
    (he : (enc_encrypt c mac il iml ml dl dp ip imp mr nd rb ri nu ru rc nfn rf rc2 ms bs).ret = 0)
    (hd : (dec_decrypt c mac il' ml dl dp ip' mr' nd' rb' ri' nu' ru' rc' nfn' rf' rc2' ms bs).ret = 0) :
    (enc_encrypt c mac il iml ml dl dp ip imp mr nd rb ri nu ru rc nfn rf rc2 ms bs).events.head? =
    (dec_decrypt c mac il' ml dl dp ip' mr' nd' rb' ri' nu' ru' rc' nfn' rf' rc2' ms bs).events.head? := by
  rw [(encrypt_success_shape c mac il iml ml dl dp ip imp mr nd rb ri nu ru rc nfn rf rc2 ms bs hil hbs hn he hc).1,
    (decrypt_success_shape c mac il' ml dl dp ip' mr' nd' rb' ri' nu' ru' rc' nfn' rf' rc2' ms bs hil' hbs hn' hf' hd hc).1]
  rfl

/-! ## `enc_armor` (C10 / C19): PREFIX ‖ base64 (OUTER ‖ MAC ‖ INNER) ‖ SUFFIX, inside its buffer -/

/-- **The armor is the prefix, then the base64 stream fed the outer layer, the MAC and the inner layer - in that order, each whole,
    each output placed right after the previous one - then the final quantum and the suffix**; the credential length reported
    counts the terminating NUL; both binary layers are wiped and freed. -/
theorem armor_layout (ol ml il oml iml op mp ip omp imp mr r0 n1 r1 rc n2 r2 n3 r3 nf rf rc2 : Int) (bl : Int → Int)
    (hsz : 0 ≤ ol ∧ 0 ≤ ml ∧ 0 ≤ il ∧ ol + ml + il ≤ 1500000) (hbl : 0 ≤ bl (ol + ml + il) ∧ bl (ol + ml + il) ≤ 2147480000)
    (hn : 0 ≤ n1 ∧ 0 ≤ n2 ∧ 0 ≤ n3 ∧ 0 ≤ nf ∧ n1 + n2 + n3 + nf + 1 ≤ bl (ol + ml + il))
    (h : (enc_armor ol ml il oml iml op mp ip omp imp mr r0 n1 r1 rc n2 r2 n3 r3 nf rf rc2 bl).ret = 0) :
    let o := enc_armor ol ml il oml iml op mp ip omp imp mr r0 n1 r1 rc n2 r2 n3 r3 nf rf rc2 bl
    o.events = [("malloc", [6 + bl (ol + ml + il) + 1]), ("wr", [0, 7, 2, 0]), ("base64_init", []),
                ("base64_encode_update", [6, op, ol]), ("base64_encode_update", [6 + n1, mp, ml]),
                ("base64_encode_update", [6 + n1 + n2, ip, il]), ("base64_encode_final", [6 + n1 + n2 + n3]), ("base64_cleanup", []),
                ("wr", [6 + n1 + n2 + n3 + nf, 2, 2, 1]),
                ("set:c.outer_mem", [0, wrapU64 oml]), ("free:c.outer_mem", []), ("set:c.inner_mem", [0, wrapU64 iml]), ("free:c.inner_mem", [])] ∧
    o.get "c.outer_len" (-1) = 6 + n1 + n2 + n3 + nf + 1 + 1 ∧
    -- the last store (suffix and its NUL) ends inside the allocation
    6 + n1 + n2 + n3 + nf + 2 ≤ 6 + bl (ol + ml + il) + 1 := by
  have e : wrapS32 ((wrapS32 (ol + ml)) + il) = ol + ml + il := by unfold wrapS32; omega
  kcases enc_armor <;> simp [e, wrapS32, wrapU64] at h ⊢ <;> omega

example : enc_armor_srcNames = ["literal:MUNGE:", "literal::"] := by decide

/-- **A failing base64 step fails the encode and frees the armor buffer once**; the binary layers are left alone. -/
theorem armor_failure_is_an_error (ol ml il oml iml op mp ip omp imp mr r0 n1 r1 rc n2 r2 n3 r3 nf rf rc2 : Int) (bl : Int → Int)
    (hmr : mr ≠ 0) (hf : r0 < 0 ∨ r1 < 0 ∨ r2 < 0 ∨ r3 < 0 ∨ rf < 0 ∨ rc2 < 0) :
    let o := enc_armor ol ml il oml iml op mp ip omp imp mr r0 n1 r1 rc n2 r2 n3 r3 nf rf rc2 bl
    o.ret = -1 ∧ o.count "free:buf" = 1 ∧ o.count "free:c.outer_mem" = 0 ∧ o.count "free:c.inner_mem" = 0 := by
  kcases enc_armor with [hmr] <;> simp at * <;> omega

/-! ## `dec_decompress` -/

/-- **A compressed inner layer that does not decompress is the generic invalid-credential error, and its scratch buffer is
    freed** (the repair of F4: the buffer used to leak on this path): -1, `EMUNGE_CRED_INVALID`, exactly one `free` of the
    buffer, the inner layer untouched. -/
theorem decompress_failure_frees_buffer (z il iml ip imp mr rl nz rb : Int)
    (hz : z ≠ 0) (hl : 0 < rl) (hm : mr ≠ 0) (hb : rb < 0) :
    let o := dec_decompress z il iml ip imp mr rl nz rb
    o.ret = -1 ∧ o.err = 14 ∧ o.count "free:buf" = 1 ∧ o.writes = [] := by
  kcases dec_decompress <;> first | omega | simp

/-- **Successful decompression replaces the inner layer** by the buffer of the length the header announced, with the length
    the back end reported; the previous inner buffer (the plaintext, for an encrypted credential) is wiped and freed exactly
    when there was one. -/
theorem decompress_success_shape (z il iml ip imp mr rl nz rb : Int)
    (hz : z ≠ 0) (hl : 0 < rl) (hm : mr ≠ 0) (hb : 0 ≤ rb) :
    let o := dec_decompress z il iml ip imp mr rl nz rb
    o.ret = 0 ∧ o.get "c.inner" 0 = mr ∧ o.get "c.inner_len" (-1) = nz ∧ o.get "c.inner_mem_len" (-1) = rl ∧
    o.count "free:c.inner_mem" = (if imp ≠ 0 then 1 else 0) ∧ o.count "free:buf" = 0 := by
  kcases dec_decompress <;> first | omega | simp [*]

/-- **Anything the length header does not vouch for is refused before a buffer exists**: a non-positive announced length
    gives -1 without allocation. -/
theorem decompress_bad_length_refused (z il iml ip imp mr rl nz rb : Int) (hz : z ≠ 0) (hl : rl ≤ 0) :
    let o := dec_decompress z il iml ip imp mr rl nz rb
    o.ret = -1 ∧ o.count "malloc" = 0 ∧ o.writes = [] := by
  kcases dec_decompress <;> first | omega | simp

/-! ## the model's MAC stage is the code's -/

open Munge.Cred in
/-- **`Cred.decValidateMac` accepts exactly when the translated `dec_validate_mac` does**, the primitives being total in the
    model (every call succeeds), `n` after `mac_final` being the length of the recomputed MAC and `crypto_memcmp` reporting 0
    exactly for equal byte strings: the model recomputes over `outer ++ inner` - the two `mac_update` calls of
    `mac_covers_outer_then_inner` - and compares with the received MAC over `mac_len` bytes. -/
theorem model_mac_stage_is_the_code (P : Prims) (cf : Conf) (m : Msg) (s : Scratch) (kl op ip kp mp : Int) :
    (∃ m', decValidateMac P cf m s = .ok m') ↔
      (dec_validate_mac m.mac m.errorNum s.outer.length s.inner.length s.macLen kl op ip kp mp 0 0 0 0
        (P.mac m.mac cf.macKey (s.outer ++ s.inner)).length 0 0
        (if P.mac m.mac cf.macKey (s.outer ++ s.inner) = s.mac then 0 else 1)).ret = 0 := by
  rw [mac_stage_accepts_iff]
  unfold decValidateMac
  generalize P.mac m.mac cf.macKey (s.outer ++ s.inner) = macv
  by_cases h3 : m.errorNum = 0
  · by_cases h2 : macv = s.mac
    · subst h2
      by_cases h1 : s.mac.length = s.macLen
      · simp [h1, h3]
      · simp [h1, h3]; omega
    · simp [h2, h3]
  · by_cases h2 : macv = s.mac
    · subst h2
      by_cases h1 : s.mac.length = s.macLen <;> simp [h1, h3]
    · simp [h2, h3]

end Munge.C02Stages
