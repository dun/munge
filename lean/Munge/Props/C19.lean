import Munge.Lemmas.Base64
/-
C19 — Base64 armor is a strict, bounded, chunking-independent inverse pair.

The tables `bin2asc`/`asc2bin`, the class constants and the two length formulas
are `Munge.Gen.Base64.*`, regenerated from `src/munged/base64.c` on every run, so
each theorem below is re-checked against what the C source says now.
-/
namespace Munge.C19
open Munge.Base64 Munge.Gen.Base64 Munge.C

/-- An independent definition of canonical RFC 4648 base64 (no bit operations, its own
    alphabet literal): three octets form a 24-bit number that is cut into four sextets. -/
def rfcAlphabet : List UInt8 :=
  "ABCDEFGHIJKLMNOPQRSTUVWXYZabcdefghijklmnopqrstuvwxyz0123456789+/".toList.map (fun c => UInt8.ofNat c.toNat)
def rfcChar (n : Nat) : UInt8 := rfcAlphabet.getD n 0
def rfcEncode : List UInt8 → List UInt8
  | a :: b :: c :: rest =>
      let n := a.toNat * 65536 + b.toNat * 256 + c.toNat
      rfcChar (n / 262144) :: rfcChar (n / 4096 % 64) :: rfcChar (n / 64 % 64) :: rfcChar (n % 64) :: rfcEncode rest
  | [a, b] =>
      let n := a.toNat * 65536 + b.toNat * 256
      [rfcChar (n / 262144), rfcChar (n / 4096 % 64), rfcChar (n / 64 % 64), 61]
  | [a] =>
      let n := a.toNat * 65536
      [rfcChar (n / 262144), rfcChar (n / 4096 % 64), 61, 61]
  | [] => []

/-- the six characters C's `isspace` accepts in the "C" locale -/
def isSpace (c : UInt8) : Prop := c = 9 ∨ c = 10 ∨ c = 11 ∨ c = 12 ∨ c = 13 ∨ c = 32
instance (c : UInt8) : Decidable (isSpace c) := by unfold isSpace; infer_instance

/-- strict well-formedness: after deleting whitespace, alphabet characters followed by
    0–2 `=` with `(chars + pads) mod 4 = 0` -/
def WellFormed (src : List UInt8) : Prop :=
  ∃ (body : List UInt8) (p : Nat),
    src.filter (fun ch => !decide (isSpace ch)) = body ++ List.replicate p 61 ∧
    (∀ ch ∈ body, ch ∈ rfcAlphabet) ∧ p ≤ 2 ∧ (body.length + p) % 4 = 0

/-- `asc2bin` inverts `bin2asc` on all 64 sextets, and the images are not class markers. -/
theorem table_inverse : ∀ i : Fin 64, a2b (b2a (UInt8.ofNat i)) = UInt8.ofNat i :=
  a2b_b2a_fin

/-- every other byte is classified exactly as the statement says: `=` is the pad, the six
    `isspace` characters are ignored, the 64 alphabet characters map to their index, and all
    remaining bytes are errors; the encoder's alphabet is the RFC 4648 one. -/
theorem table_classes :
    bin2asc = rfcAlphabet ∧ PADCHAR = 61 ∧
    ∀ c : Fin 256,
      let ch := UInt8.ofNat c
      (a2b ch = PAD ↔ ch = 61) ∧ (a2b ch = IGN ↔ isSpace ch) ∧
      ((a2b ch).toNat < 64 ↔ ch ∈ rfcAlphabet) ∧
      (a2b ch = ERR ↔ ¬ (ch = 61 ∨ isSpace ch ∨ ch ∈ rfcAlphabet)) := by
  have hA : bin2asc = rfcAlphabet := by decide +kernel
  have hS (ch : UInt8) : isSpace ch ↔ ch.toNat ∈ [9, 10, 11, 12, 13, 32] := by
    simp [isSpace, ← UInt8.toNat_inj]
  refine ⟨hA, rfl, fun c => ?_⟩
  simp only [hS, ← hA]
  exact a2b_spec _

/-- decoding the encoding of any byte string returns it unchanged, with success -/
theorem decode_encode (x : List UInt8) : decodeBlock (encodeBlock x) = (0, x) := by
  obtain ⟨h1, h2, h3⟩ := decLoop_encode x [] 0
  simp [decodeBlock, h1, h2, h3]

/-- the encoder's output is canonical RFC 4648 base64 -/
theorem encode_rfc4648 (x : List UInt8) : encodeBlock x = rfcEncode x := by
  have hb : ∀ v : UInt8, b2a v = rfcChar v.toNat := by
    intro v; unfold b2a rfcChar; rw [table_classes.1]
  have hp : PADCHAR = 61 := rfl
  fun_induction encodeBlock x with
  | case1 a b c rest ih =>
    obtain ⟨d0, d1, d2, d3⟩ := sx_digits a b c
    simp only [rfcEncode, hb, d0, d1, d2, d3, ih]
  | case2 a b =>
    obtain ⟨d0, d1, d2, -⟩ := sx_digits a b 0
    simp only [rfcEncode, hb, hp, sx2'_eq, d0, d1, d2, UInt8.toNat_zero, Nat.add_zero]
  | case3 a =>
    obtain ⟨d0, d1, -, -⟩ := sx_digits a 0 0
    simp only [rfcEncode, hb, hp, sx1'_eq, d0, d1, UInt8.toNat_zero, Nat.add_zero]
  | case4 => rfl

/-- … identical however the input is split across streaming calls -/
theorem chunking (chunks : List (List UInt8)) : encodeChunks chunks = encodeBlock chunks.flatten :=
  (encodeChunks_eq chunks).trans (encFold_spec chunks {} [] (by decide))

/-- bytes written by `base64_encode_block` (characters and the NUL) are exactly the advertised
    bound `base64_encode_length n`, for every length whose bound is representable in `int` -/
theorem encode_bound (x : List UInt8) (h : x.length ≤ 1610612730) :
    (encodeBlockWritten x : Int) = (base64_encode_length x.length).ret := by
  have hl := encodeBlock_length x
  simp only [encodeBlockWritten, hl, base64_encode_length, wrapS32, cdiv]
  rw [Int.tdiv_eq_ediv_of_nonneg (by omega)]
  omega

/-- the streaming encoder produces the same characters, hence stays within the same bound -/
theorem encode_bound_streaming (chunks : List (List UInt8)) (h : chunks.flatten.length ≤ 1610612730) :
    ((encodeChunks chunks).length + 1 : Int) = (base64_encode_length chunks.flatten.length).ret := by
  rw [chunking, ← encode_bound _ h, encodeBlockWritten, Int.natCast_add, Int.natCast_one]

/-- the decoder never writes beyond the advertised decode bound, for **every** input string
    (valid or not): the highest byte it touches (partial byte / NUL at `*pdst`) is inside -/
theorem decode_bound (s : List UInt8) (h : s.length ≤ 2147483000) :
    (decodeBlockWritten s : Int) ≤ (base64_decode_length s.length).ret := by
  have hl := decodeBlock_out_bound s
  simp only [decodeBlockWritten, base64_decode_length, wrapS32, cdiv]
  rw [Int.tdiv_eq_ediv_of_nonneg (by omega)]
  omega

/-- the decoder accepts exactly the well-formed strings: whitespace is ignored; any character
    outside the alphabet, misplaced or miscounted padding, or data after padding is rejected -/
theorem decode_strict (s : List UInt8) : (decodeBlock s).1 = 0 ↔ WellFormed s := by
  have T (ch : UInt8) : (a2b ch = IGN ↔ isSpace ch) ∧ ((a2b ch).toNat < 64 ↔ ch ∈ rfcAlphabet) := by
    have h := table_classes.2.2 ⟨ch.toNat, ch.toNat_lt⟩
    simp only [UInt8.ofNat_toNat] at h
    exact ⟨h.2.1, h.2.2.1⟩
  have hf : (fun ch => a2b ch != IGN) = (fun ch => !decide (isSpace ch)) := by
    funext ch
    simp only [← (T ch).1]
    rfl
  rw [decodeBlock_strict]
  simp only [WF, WellFormed, hf, (T _).2]

/-- the streaming decoder (any chunking, then `final`) accepts exactly the same strings as the block
    decoder (that it also yields the same bytes and ends in the same context is `Base64.foldl_decFold`) -/
theorem decode_chunking (chunks : List (List UInt8)) :
    let r := chunks.foldl (fun (acc : DecCtx × List UInt8 × Bool) ch =>
      if acc.2.2 then acc else
      let (rc, o, x') := decodeUpdate acc.1 ch
      (x', acc.2.1 ++ o, rc != 0)) ({}, [], false)
    (decodeBlock chunks.flatten).1 = 0 ↔ (r.2.2 = false ∧ decodeFinal r.1 = 0) := by
  show _ ↔ (chunks.foldl decFold ({}, [], false)).2.2 = false ∧
    decodeFinal (chunks.foldl decFold ({}, [], false)).1 = 0
  rw [decodeBlock_ok, foldl_decFold]
  simp [decodeFinal]

example : decodeBlock (encodeBlock [0x14, 0xfb, 0x9c, 0x03, 0xd9]) = (0, [0x14, 0xfb, 0x9c, 0x03, 0xd9]) := by decide +kernel
example : WellFormed [70, 80, 10, 115, 61] := by
  refine ⟨[70, 80, 115], 1, by decide +kernel, ?_, by decide, by decide⟩
  rw [← table_classes.1]; decide
example : (decodeBlock [70, 80, 61, 115]).1 = -1 := by decide +kernel

end Munge.C19
