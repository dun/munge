import Munge.Lemmas.Gids
/-
C17 — Supplementary-group answers equal the group and user databases.

What is proved here are the properties; helper lemmas live in `Munge/Lemmas/Gids.lean`.  The model
(`Munge/Model/Gids.lean`) executes fragments that are regenerated from `src/munged/gids.c` on every
run (`Munge.Gen.Gids`): `_gids_user_to_uid`, `_gids_map_update`, `gids_update`, the key comparison,
the conditions/bodies of the two sorted-list walks, the tail of `_gids_gid_add`, the error dispatch and
the member body of the scan loop, `max_inits`, the return values of `_gids_map_create`, and the
lock/unlock/access paths of the functions the model treats as atomic.  Each theorem below is therefore
re-checked against what the C source says now.

Vocabulary: `build g p` is one clean scan of group database `g` against user database `p`;
`mapCreate O pw items` is `_gids_map_create` over an arbitrary sequence of `xgetgrent` results and a
user database with state (answers may change between calls); `isMember` is `gids_is_member`;
`mapUpdate` is `_gids_map_update`; `run` executes any interleaving of lookups, SIGHUPs, database
edits and steps of the refresh thread (one step per mutex section / per group entry).
-/
namespace Munge.C17
open Munge.Gids Munge.Gen.Gids Munge.C

/-- `gids_is_member` says yes exactly when some group entry with that gid lists a user name that the user
    database maps to that uid — for every database: duplicate gids, duplicate names, several names for one
    uid, unknown users, empty and arbitrarily large groups.  (`SENT` = `(uid_t) -1` is munge's "no such user"
    value; `p n = .fail e` covers both "not found" and lookup errors: neither makes anybody a member.) -/
theorem member_spec (g : List GrEnt) (p : String → PwRes) (u gid : Int) :
    isMember (build g p) u gid = true ↔
      ∃ e ∈ g, e.gid = gid ∧ ∃ n ∈ e.members, p n = .found u ∧ u ≠ SENT := by
  simp [build_eq, isMember_ofPairs, mem_pairsOf, resolve_eq_some]

/-- the lists the map keeps per uid are strictly increasing (sorted, duplicate-free), whatever the
    databases, the lookup errors and the restarts were -/
theorem map_sorted_dupfree (O : PwOracle σ) (p : String → PwRes) (hO : Cons O p) (pw : σ) (items : List GrItem)
    (m : GidMap) (h : (mapCreate O pw items).1 = some m) :
    ∀ e ∈ m, List.Pairwise (· < ·) e.2 := by
  obtain ⟨ps, rfl, -⟩ := mapCreate_pairs O p hO pw items m h
  exact allSorted_ofPairs _ _ allSorted_nil

/-- Lookup errors fail closed.  If every answer of the user database during the build is either what `p` says
    or an error (any errno but ENOENT; answers may differ from call to call), then the build still succeeds and
    the map it produces answers yes only where the error-free build would: authorisation can be lost for the
    length of one refresh interval, never gained. -/
theorem errors_underapproximate (O : PwOracle σ) (p : String → PwRes) (hO : Cons O p) (pw : σ) (g : List GrEnt) :
    (∃ m, (mapCreate O pw (entItems g)).1 = some m) ∧
      ∀ u gid, isMember (mapCreate O pw (entItems g)).1 u gid = true → isMember (build g p) u gid = true := by
  -- entries alone never end the scan, so the build succeeds; its pairs are among those of the clean scan
  obtain ⟨_, hm, -⟩ := mapCreate_entItems O p hO pw g
  refine ⟨⟨_, hm⟩, fun u gid hu => ?_⟩
  obtain ⟨ps, hps, hsub⟩ := mapCreate_pairs O p hO pw _ _ hm
  rw [hm, hps, isMember_ofPairs] at hu
  rw [build_eq, isMember_ofPairs]
  simpa [entsOf_entItems] using hsub hu

/-- Any number of ERANGE restarts yields the same map as one clean scan.  `pre` are the `xgetgrent` results of
    the scans that ended in ERANGE (arbitrary entries — the database may have been different each time — and
    EINTRs), `fin` those of the scan that reached the end; as long as the restarts stay within `max_inits` the
    result is exactly the map of a clean scan of the entries of `fin` alone. -/
theorem restart_same (p : String → PwRes) (pre : List (List GrItem)) (fin : List GrItem)
    (hpre : ∀ b ∈ pre, Benign b) (hfin : Benign fin) (hlen : (pre.length : Int) < max_inits) :
    (mapCreate (constOracle p) () (restartPrefix pre ++ fin)).1 = build (entsOf fin) p := by
  obtain ⟨st1, h1, hc1, hm1, -⟩ :=
    scan_restartPrefix _ p (Cons.const p) pre fin ⟨(), [], [], 1⟩ hpre (cacheOK_nil p) rfl (by simp) (by simp; omega)
  obtain ⟨st2, ps, h2, g, he⟩ := scan_benign _ p (Cons.const p) fin [] st1 hfin hc1
  rw [List.append_nil] at h2
  rw [mapCreate, initBSt_eq, h1, h2, scanLoop_nil, g.map, hm1, he (fun _ _ => rfl), build_eq]

/-- … and the bound: the `max_inits`-th ERANGE makes `_gids_map_create` fail (return NULL) instead of looping -/
theorem restart_gives_up (p : String → PwRes) (pre : List (List GrItem)) (rest : List GrItem)
    (hpre : ∀ b ∈ pre, Benign b) (hlen : (pre.length : Int) = max_inits) :
    (mapCreate (constOracle p) () (restartPrefix pre ++ rest)).1 = none := by
  -- the last of the scans ends in the ERANGE that is one too many
  rcases List.eq_nil_or_concat pre with rfl | ⟨pre', b, rfl⟩
  · exact absurd hlen (by decide)
  simp only [List.concat_eq_append, List.length_append, List.length_singleton] at hlen hpre
  obtain ⟨st1, h1, hc1, -, hi1⟩ := scan_restartPrefix _ p (Cons.const p) pre'
    (b ++ GrItem.fail ERANGE :: rest) ⟨(), [], [], 1⟩
    (fun x hx => hpre x (List.mem_append_left _ hx)) (cacheOK_nil p) rfl (by simp) (by simp; omega)
  obtain ⟨st2, _, h2, g, -⟩ := scan_benign _ p (Cons.const p) b (GrItem.fail ERANGE :: rest) st1
    (hpre b (by simp)) hc1
  have hi2 := g.inits
  rw [mapCreate, initBSt_eq, List.concat_eq_append, restartPrefix_concat, h1, h2]
  exact scan_giveup _ _ _ (by simp at hi1; omega)

/-- One pass of `xgetpwnam`'s loop is three-valued the way the build assumes: a passwd entry is success; "no entry" with
    return value 0 / ENOENT / ESRCH is *not found* (errno ENOENT, which the build caches negatively); EINTR and ERANGE
    (after growing the buffer) ask again; EIO / EMFILE / ENFILE are *lookup errors* handed up with their errno (the
    build skips the member and caches nothing). -/
theorem xgetpwnam_classification (rv rv_pwp errnoV growrv : Int) :
    (rv_pwp ≠ 0 → (xgetpwnam_step rv rv_pwp errnoV growrv).ret = 0) ∧
    (rv_pwp = 0 → (rv = 0 ∨ rv = ENOENT ∨ rv = ESRCH) →
      (xgetpwnam_step rv rv_pwp errnoV growrv).ret = -1 ∧
      (xgetpwnam_step rv rv_pwp errnoV growrv).written "errno" = some ENOENT) ∧
    (rv_pwp = 0 → rv = EINTR → (xgetpwnam_step rv rv_pwp errnoV growrv).ret = 100) ∧
    (rv_pwp = 0 → rv = ERANGE → growrv = 0 →
      (xgetpwnam_step rv rv_pwp errnoV growrv).ret = 100 ∧
      (xgetpwnam_step rv rv_pwp errnoV growrv).calls "_xgetpwbuf_grow" = true) ∧
    (rv_pwp = 0 → (rv = Munge.Gen.Gids.EIO ∨ rv = EMFILE ∨ rv = ENFILE) →
      (xgetpwnam_step rv rv_pwp errnoV growrv).ret = -1 ∧
      (xgetpwnam_step rv rv_pwp errnoV growrv).written "errno" = some rv) := by
  refine ⟨?_, ?_, ?_, ?_, ?_⟩
  · intro h; simp [xgetpwnam_step, h]
  · rintro h (h1 | h1 | h1) <;> subst h <;> subst h1 <;> simp [xgetpwnam_step, KOut.written, ENOENT, ESRCH]
  · intro h h1; subst h; subst h1; simp [xgetpwnam_step, EINTR]
  · intro h h1 h2; subst h; subst h1; subst h2; simp [xgetpwnam_step, ERANGE, KOut.calls]
  · rintro h (h1 | h1 | h1) <;> subst h <;> subst h1 <;>
      simp [xgetpwnam_step, KOut.written, Munge.Gen.Gids.EIO, EMFILE, ENFILE]

/-- One pass of `xgetgrent`'s loop, as configured and in the `HAVE_GETGRENT_R_ERANGE_BROKEN` build: an entry is success,
    the end of the database is ENOENT, ERANGE grows the buffer and either asks again (as configured) or reports ERANGE to
    `_gids_map_create` (which then restarts the scan), and every other error reaches the caller with its errno. -/
theorem xgetgrent_classification (rv rv_grp errnoV growrv : Int) :
    (rv = 0 → rv_grp ≠ 0 →
      (xgetgrent_step rv rv_grp errnoV growrv).ret = 0 ∧ (xgetgrent_step_eb rv rv_grp errnoV growrv).ret = 0) ∧
    ((rv = 0 ∨ rv = ENOENT) → rv_grp = 0 →
      (xgetgrent_step rv rv_grp errnoV growrv).ret = -1 ∧
      (xgetgrent_step rv rv_grp errnoV growrv).written "errno" = some ENOENT ∧
      (xgetgrent_step_eb rv rv_grp errnoV growrv).ret = -1 ∧
      (xgetgrent_step_eb rv rv_grp errnoV growrv).written "errno" = some ENOENT) ∧
    (rv = ERANGE → growrv = 0 →
      (xgetgrent_step rv rv_grp errnoV growrv).ret = 100 ∧
      (xgetgrent_step rv rv_grp errnoV growrv).calls "_xgetgrbuf_grow" = true ∧
      (xgetgrent_step_eb rv rv_grp errnoV growrv).ret = -1 ∧
      (xgetgrent_step_eb rv rv_grp errnoV growrv).written "errno" = some ERANGE ∧
      (xgetgrent_step_eb rv rv_grp errnoV growrv).calls "_xgetgrbuf_grow" = true) ∧
    (rv ≠ 0 → rv ≠ ENOENT → rv ≠ ERANGE →
      (xgetgrent_step rv rv_grp errnoV growrv).ret = -1 ∧
      (xgetgrent_step rv rv_grp errnoV growrv).written "errno" = some rv ∧
      (xgetgrent_step_eb rv rv_grp errnoV growrv).ret = -1 ∧
      (xgetgrent_step_eb rv rv_grp errnoV growrv).written "errno" = some rv) := by
  refine ⟨?_, ?_, ?_, ?_⟩
  · intro h h1; subst h; simp [xgetgrent_step, xgetgrent_step_eb, h1]
  · rintro (h | h) h1 <;> subst h <;> subst h1 <;> simp [xgetgrent_step, xgetgrent_step_eb, KOut.written, ENOENT]
  · intro h h1; subst h; subst h1
    simp [xgetgrent_step, xgetgrent_step_eb, KOut.written, KOut.calls, ERANGE]
  · intro h0 h1 h2
    have h1' : rv ≠ 2 := h1
    have h2' : rv ≠ 34 := h2
    simp [xgetgrent_step, xgetgrent_step_eb, KOut.written, h0, h1', h2']

/-- A failed refresh keeps the old map (and the old load time, so that the next refresh tries again). -/
theorem failed_refresh_keeps_old (O : PwOracle σ) (sh : Shared) (env : UpdEnv) (pw : σ) (items : List GrItem) (nt : Int)
    (hfail : (mapCreate O pw items).1 = none) :
    (mapUpdate O sh env pw items nt).1.installed = sh.installed ∧
      (mapUpdate O sh env pw items nt).1.tLast = sh.tLast := by
  unfold mapUpdate
  split <;> simp [commit_eq, hfail]

/-- After a completed refresh the map is the one built from the current databases whenever the mtime check is
    off, `stat` failed, or the group file's mtime is newer than the last successful load; the load time
    becomes the time read at the start of this refresh. -/
theorem refresh_reflects (O : PwOracle σ) (sh : Shared) (env : UpdEnv) (pw : σ) (items : List GrItem) (nt : Int)
    (m : GidMap) (hnewer : sh.doStat ≤ 0 ∨ env.statrv < 0 ∨ env.mtime > sh.tLast)
    (hbuilt : (mapCreate O pw items).1 = some m) :
    (mapUpdate O sh env pw items nt).1.installed = some m ∧
      (mapUpdate O sh env pw items nt).1.tLast = env.now := by
  have hw : wantsBuild sh.doStat sh.tLast sh env = true := by
    rw [wantsBuild_iff]; omega
  simp [mapUpdate, hw, hbuilt, commit_eq]

/-- in particular, with a clean scan the answers after the refresh are those of the current databases -/
theorem refresh_reflects_databases (sh : Shared) (env : UpdEnv) (g : List GrEnt) (p : String → PwRes) (nt : Int)
    (hnewer : sh.doStat ≤ 0 ∨ env.statrv < 0 ∨ env.mtime > sh.tLast) (u gid : Int) :
    isMember (mapUpdate (constOracle p) sh env () (entItems g) nt).1.installed u gid = true ↔
      ∃ e ∈ g, e.gid = gid ∧ ∃ n ∈ e.members, p n = .found u ∧ u ≠ SENT := by
  have hb : (mapCreate (constOracle p) () (entItems g)).1 = some (ofPairs (pairsOf p g) []) := build_eq g p
  rw [(refresh_reflects (constOracle p) sh env () (entItems g) nt _ hnewer hb).1, ← build_eq, member_spec]

/-- the scan is skipped only when the check is on, `stat` worked, and the file is not newer than the last load
    (strictly: an mtime equal to the load time does not count as newer) -/
theorem refresh_skips_only_if_not_newer (sh : Shared) (env : UpdEnv) :
    wantsBuild sh.doStat sh.tLast sh env = false ↔ (sh.doStat > 0 ∧ env.statrv ≥ 0 ∧ env.mtime ≤ sh.tLast) := by
  rw [← Bool.not_eq_true, wantsBuild_iff, Classical.not_not]

/-- a failing `stat` switches the mtime check off (so every later refresh rescans) until a SIGHUP switches it on
    again; neither touches the installed map -/
theorem stat_failure_disables_check_until_sighup (d t : Int) (sh : Shared) (env : UpdEnv) (res : Option GidMap) (nt : Int)
    (hd : d > 0) (hs : env.statrv < 0) :
    (commit d t sh env res nt).doStat = -1 ∧
      (hup (commit d t sh env res nt) nt).doStat = 1 ∧
      (hup sh nt).installed = sh.installed := by
  simp [commit_eq, hup_eq, hd, hs]

/-- Scheduling.  SIGHUP (`gids_update`) cancels the pending refresh, if any, and schedules one that is due at once;
    every run of `_gids_map_update` re-arms the periodic refresh (interval × 1000 ms) exactly when the interval is
    positive, whether or not it rebuilt the map. -/
theorem refresh_is_scheduled (d t : Int) (sh : Shared) (env : UpdEnv) (res : Option GidMap) (nt : Int) :
    ((hupKernel sh nt).events.filter (fun e => e.1 == "timer_cancel" || e.1 == "timer_set_relative") =
        (if sh.timer > 0 then [("timer_cancel", [sh.timer])] else []) ++ [("timer_set_relative", [0])]) ∧
    (hup sh nt).timer = nt ∧
    ((updKernel d t sh env res nt).events.filter (fun e => e.1 == "timer_cancel" || e.1 == "timer_set_relative") =
        if sh.interval > 0 then [("timer_set_relative", [wrapS32 (sh.interval * 1000)])] else []) ∧
    (commit d t sh env res nt).timer = (if sh.interval > 0 then nt else 0) := by
  refine ⟨?_, by rw [hup_eq], (map_update_spec (k := updKernel d t sh env res nt) rfl).sched, by rw [commit_eq]⟩
  unfold hupKernel gids_update
  by_cases ht : sh.timer > 0 <;> simp [ht]

/-- `_gids_map_update` never hands the map it has just installed (nor a still-installed one) to `hash_destroy`:
    the only map destroyed is the old one, and only after a new one took its place -/
theorem swap_never_destroys_installed (d t : Int) (sh : Shared) (env : UpdEnv) (res : Option GidMap) :
    ∀ ptr ∈ destroyed d t sh env res, ptr ≠ 0 → ptr = ptrOf sh.installed P_OLD ∧ res.isSome = true := by
  rw [destroyed_eq]
  split
  next h => simp [ptrOf, h]
  next => simp

/-- In every interleaving of lookups, SIGHUPs, database edits and steps of the refresh thread (one step per
    mutex section and per group entry processed off-lock), every lookup is answered from one whole map: there is
    a sequence of maps `Ms`, one per epoch (= number of swaps so far), such that each lookup's answer is
    `isMember` of the map of its epoch, `Ms` starts with the installed map, and each next map is either the
    previous one or the complete result of one `_gids_map_create` — never the partial map the refresh thread is
    working on.  So a lookup concurrent with a refresh sees the old map (before the swap) or the new one (after). -/
theorem lookup_sees_whole_map (O : PwOracle σ) (s : Sys σ) (hidle : s.phase = .idle) (acts : List (Act σ)) :
    ∃ Ms : Nat → Option GidMap,
      Ms s.commits = s.sh.installed ∧
      (∀ r ∈ (run O s acts).2, r.ans = isMember (Ms r.epoch) r.uid r.gid) ∧
      (∀ k, s.commits ≤ k → Ms (k + 1) = Ms k ∨
        ∃ pw items, (mapCreate O pw items).1 = Ms (k + 1) ∧ (Ms (k + 1)).isSome = true) := by
  obtain ⟨Ms, h1, h2, h3⟩ := run_whole O acts s (by rw [hidle]; trivial)
  exact ⟨Ms, h1, fun r hr => (h2 r hr).2, h3⟩

/-- the steps of the refresh thread before its swap, SIGHUPs and database edits leave the installed map untouched -/
theorem only_the_swap_changes_the_map (O : PwOracle σ) (s : Sys σ) (a : Act σ) (h : isCommit s a = false) :
    (sysStep O s a).1.sh.installed = s.sh.installed :=
  (step_noncommit O s a h).1

/-- walk one control-flow path: shared fields (all of `*gids` except `exempt`) and map nodes are touched only
    while `gids->mutex` is held, lock/unlock alternate, and the function returns with the mutex released -/
def wellLocked (exempt : List String) : Bool → List Ev → Bool
  | held, [] => !held
  | held, .lock :: r => !held && wellLocked exempt true r
  | held, .unlock :: r => held && wellLocked exempt false r
  | held, .ret :: r => !held && r.isEmpty
  | held, .read f :: r => (held || exempt.contains f) && wellLocked exempt held r
  | held, .write f :: r => (held || exempt.contains f) && wellLocked exempt held r
  | held, .node _ :: r => held && wellLocked exempt held r
  | _, .otherlock _ :: _ => false
  | held, .free _ :: r => !held && wellLocked exempt held r

/-- the events of each locked section of a path (`cur` = the section being collected, newest first) -/
def sectionsAux : Option (List Ev) → List Ev → List (List Ev)
  | none, [] => []
  | some c, [] => [c.reverse]
  | none, .lock :: r => sectionsAux (some []) r
  | none, _ :: r => sectionsAux none r
  | some c, .unlock :: r => c.reverse :: sectionsAux none r
  | some c, e :: r => sectionsAux (some (e :: c)) r

def lockedSections (p : List Ev) : List (List Ev) := sectionsAux none p

/-- `gids_is_member` is one critical section: on every path the map pointer and every node are read between lock
    and unlock, and it returns unlocked.  `gids_update` likewise.  `_gids_map_update` consists of two critical
    sections; outside them it touches only `ghost_hash` (which belongs to the single refresh thread); the new map
    pointer and the load time are written in the same section.  `gids_destroy` frees the struct after unlocking. -/
theorem atomicity_certificates :
    (∀ p ∈ paths_is_member, wellLocked [] false p = true) ∧
    (∀ p ∈ paths_gids_update, wellLocked [] false p = true) ∧
    (∀ p ∈ paths_map_update, wellLocked ["ghost_hash"] false p = true) ∧
    (∀ p ∈ paths_map_update, (lockedSections p).length ≤ 2 ∧
        ∀ sec ∈ lockedSections p, sec.contains (.write "gid_hash") = sec.contains (.write "t_last_update")) ∧
    (∀ p ∈ paths_map_update, ∀ sec ∈ (lockedSections p).take 1, sec.all (fun e => match e with | .write _ => false | _ => true)) ∧
    (∀ p ∈ paths_gids_destroy, wellLocked [] false p = true) := by
  decide +kernel

/-- a small database with a duplicate gid, a duplicate member, an unknown user, a sentinel uid and a lookup error -/
def exDb : List GrEnt := [⟨50, ["a", "b", "zz"]⟩, ⟨40, ["a", "s", "x", "a"]⟩, ⟨50, ["a"]⟩, ⟨60, []⟩, ⟨45, ["b", "a"]⟩]
def exPw : String → PwRes := fun n =>
  if n = "a" then .found 1000 else if n = "b" then .found 1001 else if n = "s" then .found 4294967295
  else if n = "x" then .fail 5 else .fail 2

example : build exDb exPw = some [(1000, [40, 45, 50]), (1001, [45, 50])] := by decide +kernel
example : isMember (build exDb exPw) 1000 45 = true ∧ isMember (build exDb exPw) 1000 46 = false ∧
    isMember (build exDb exPw) 4294967295 40 = false ∧ isMember (build exDb exPw) 1001 40 = false := by decide +kernel
/-- the hypotheses of `restart_same` are satisfiable with a non-trivial prefix, and the conclusion is not `none = none` -/
example : (mapCreate (constOracle exPw) () (restartPrefix [[.ent 7 ["a"], .fail 4], [.ent 8 ["b"]]] ++ entItems exDb)).1
    = some [(1000, [40, 45, 50]), (1001, [45, 50])] := by decide +kernel
/-- a user database whose first two calls fail with EIO and which then answers like `exPw`: it satisfies the hypothesis
    of `errors_underapproximate`, the build succeeds, and the map is a strict subset (1001 loses group 50, whose only listing of "b" fell on a failing call) -/
def flaky : PwOracle Nat := ⟨fun k n => if k < 2 then (.fail 5, k + 1) else (exPw n, k + 1)⟩
example : Cons flaky exPw := by
  intro k n
  by_cases h : k < 2
  · right; exact ⟨5, by simp [flaky, h], by decide⟩
  · left; simp [flaky, h]
example : (mapCreate flaky 0 (entItems exDb)).1 = some [(1000, [40, 45, 50]), (1001, [45])] := by decide +kernel

/-- a refresh in progress: the partial map differs from both the old and the new one, and a lookup made at that
    point is answered from the old map -/
example :
    let old : GidMap := [(1000, [7])]
    let s0 : Sys Unit := { sh := ⟨some old, 100, 1, 60, 0⟩, phase := .idle, env := ⟨200, 0, 150⟩,
                           db := entItems exDb, pw := () }
    let r := run (constOracle exPw) s0 [.upd, .upd, .upd, .lookup 1000 50, .lookup 1000 7, .upd, .upd, .upd, .upd, .upd, .upd,
                                          .lookup 1000 7, .lookup 1000 45]
    r.2.map (·.ans) = [false, true, false, true] ∧ r.2.map (·.epoch) = [0, 0, 1, 1] ∧
      r.1.sh.installed = build exDb exPw := by decide +kernel

end Munge.C17
