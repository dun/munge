import Munge.Model.Cred
import Munge.Model.PrimLaws
import Munge.Model.SpecV3
import Munge.Lemmas.CredRound
/-
C10 — credentials conform to the documented v3 format in both directions.
`Munge.SpecV3` is written from doc/credential_v3_format.txt alone (own byte order, own base64, own
layout); these theorems relate it to the model of the daemon, generically in the primitives.
-/
namespace Munge.C10
open Munge.Cred Munge.Cred.B Munge.SpecV3 Munge.Gen.Dec

/-- the fields a successful encode put into the credential, read off the message it returns and the
    environment it ran in -/
def fieldsOf (P : Prims) (cf : Conf) (env : Env) (e : Msg) : Fields :=
  { cipher := e.cipher, mac := e.mac, zip := e.zip, realm := e.realm.take e.realmLen,
    iv := rndTake env.rnd MUNGE_CRED_SALT_LEN.toNat (if e.cipher = 0 then 0 else (P.ivLen e.cipher).toNat),
    salt := rndTake env.rnd 0 MUNGE_CRED_SALT_LEN.toNat, addr := cf.addr.take 4,
    time0 := e.time0, ttl := e.ttl, uid := e.clientUid, gid := e.clientGid,
    authUid := e.authUid, authGid := e.authGid, payload := [] }

/-- the decode request carrying credential string `cred` -/
def decReq (cred : Bytes) : Msg := { type := 4, retry := 0, dataLen := cred.length, data := cred }

/-- DAEMON → REFERENCE.  Every credential the daemon emits is exactly what the documented format
    prescribes for the resolved fields (with the request's payload), for every request, configuration,
    environment and primitive table: armor, version 3, header, MAC over OUTER‖INNER under the MAC
    subkey, DEK from the MAC under the DEK subkey, CBC/PKCS#5, 8-byte zip header, big-endian inner
    layout. -/
theorem encode_is_spec (P : Prims) (L : PrimLaws P) (cf : Conf) (env : Env) (m : Msg)
    (hm : m.data.length = m.dataLen ∧ m.realm.length = m.realmLen ∧ m.realmLen < 256 ∧ m.dataLen < 4294967296)
    (ha : cf.addr.length = 4)
    (hok : (encProcess P cf env m).2 = 0) :
    let e := (encProcess P cf env m).1
    e.data = emit P cf.macKey cf.dekKey { (fieldsOf P cf env e) with payload := m.data } ++ [0] := by
  have _ := L   -- not needed: the bytes agree whatever the primitives compute
  obtain ⟨uid, gid, _, _, _, he⟩ := encProcess_ok P cf env m hok
  intro e
  -- the validated message as a variable, so that `hd`, `hr` are used as stated and `applyWrites` is never unfolded
  have hd : (applyWrites m (encValidate P cf m) "m.").data.length = (applyWrites m (encValidate P cf m) "m.").dataLen := hm.1
  have hr : (applyWrites m (encValidate P cf m) "m.").realm.length = (applyWrites m (encValidate P cf m) "m.").realmLen := hm.2.1
  rw [show e = _ from he.trans (encSuccess_eq P cf env _ uid gid), show m.data = (applyWrites m (encValidate P cf m) "m.").data from rfl]
  generalize applyWrites m (encValidate P cf m) "m." = m1 at hd hr ⊢
  exact encCred_spec P cf env m1 uid gid hd hr ha

/-- REFERENCE → DAEMON.  Every credential the reference builds from well-formed fields under the same
    two subkeys is accepted by the daemon (authorised client, inside the window, not seen before) with
    the same field values. -/
theorem decode_accepts_spec (P : Prims) (L : PrimLaws P) (cf : Conf) (env : Env) (rs : ReplaySet) (f : Fields)
    (hf : WF P f) (uid gid : Nat) (hp : env.peer = some (uid, gid)) (hid : uid < 4294967296 ∧ gid < 4294967296)
    (hcf : 1 ≤ cf.maxTtl ∧ cf.maxTtl ≤ MUNGE_MAXIMUM_TTL)
    (hnow : 0 ≤ env.now ∧ env.now < 4294967296)
    (hauth : (f.authUid = UID_ANY ∨ f.authUid = uid ∨ (cf.gotRootAuth = true ∧ uid = 0)) ∧
             (f.authGid = GID_ANY ∨ f.authGid = gid ∨ env.member uid f.authGid = true))
    (hwin : let ttl' : Int := if (f.ttl : Int) > cf.maxTtl then cf.maxTtl else f.ttl
            let sk : Int := if cf.gotClockSkew then ttl' else 1
            sk ≤ f.time0 ∧ f.time0 + ttl' < 4294967296 ∧ (f.time0 : Int) - sk ≤ env.now ∧ env.now ≤ f.time0 + ttl')
    (hzip : f.zip = 0 ∨ (inner f) ≠ [])
    (hfresh : ∀ k, (decProcess P cf env [] (decReq (emit P cf.macKey cf.dekKey f))).key = some k → k ∉ rs) :
    let o := decProcess P cf env rs (decReq (emit P cf.macKey cf.dekKey f))
    o.rc = 0 ∧ o.msg.data = f.payload ∧ o.msg.credUid = f.uid ∧ o.msg.credGid = f.gid ∧
    o.msg.authUid = f.authUid ∧ o.msg.authGid = f.authGid ∧ o.msg.cipher = f.cipher ∧ o.msg.mac = f.mac ∧
    o.msg.zip = f.zip ∧ o.msg.time0 = f.time0 ∧
    o.msg.addrLen = f.addr.length ∧ (f.addr.length = 4 → o.msg.addr = f.addr) ∧
    (f.realm ≠ [] → o.msg.realm = f.realm ++ [0]) := by
  have _ := hzip   -- not needed: `inner f` holds the 8-byte salt, so it is never empty
  have h1 := decode_emit P L cf env rs f hf uid gid hp hid hcf hnow hauth hwin (decReq (emit P cf.macKey cf.dekKey f)) []
    (by simp) (by show (emit P cf.macKey cf.dekKey f).take (emit P cf.macKey cf.dekKey f).length = _
                  rw [List.take_length, List.append_nil])
    (by show (0 : Nat) ≤ 5; omega) rfl hfresh
  intro o
  rw [show o = _ from h1]
  refine ⟨rfl, rfl, rfl, rfl, rfl, rfl, rfl, rfl, rfl, rfl, rfl, ?_, ?_⟩
  · intro h4
    show (if f.addr.length = 4 then f.addr else [0, 0, 0, 0]) = f.addr
    rw [if_pos h4]
  · intro hr
    show (if f.realm.length > 0 then f.realm ++ [0] else _) = _
    rw [if_pos (List.length_pos_iff.mpr hr)]

/-- the reference's base64 is the daemon's armor: the model's streaming encoder over OUTER, MAC, INNER
    equals the independent RFC 4648 definition on the concatenation -/
theorem armor_is_rfc4648 (o t i : Bytes) : Base64.encodeChunks [o, t, i] = base64 (o ++ t ++ i) :=
  armor_rfc o t i

/-- big-endian helpers agree -/
theorem be32_is_u32be (n : Nat) : be32 n = u32be n := by
  rfl

/-! ### the packers follow the source, statement by statement

`enc_pack_outer_layout` / `enc_pack_inner_layout` are extracted from the AST of enc.c on every run: the
ordered list of what each function writes through its cursor (`*p = x`, `u32 = htonl (x); memcpy (p, &u32, …)`,
`memcpy (p, src, len)`, with the guarding `if`).  The hand-written packers of the model are proved equal to
the interpretation of those lists, so a field dropped, added, reordered or re-encoded in the C breaks this
(in addition to the byte-exact correspondence run). -/

/-- the bytes one extracted write contributes, given the message, configuration, salt and IV -/
def itemBytes (cf : Conf) (m : Msg) (salt iv : Bytes) (kind expr : String) : Bytes :=
  if kind = "byte" ∧ expr = "c->version" then [UInt8.ofNat MUNGE_CRED_VERSION.toNat]
  else if kind = "byte" ∧ expr = "m->cipher" then [UInt8.ofNat m.cipher]
  else if kind = "byte" ∧ expr = "m->mac" then [UInt8.ofNat m.mac]
  else if kind = "byte" ∧ expr = "m->zip" then [UInt8.ofNat m.zip]
  else if kind = "byte" ∧ expr = "m->realm_len" then [UInt8.ofNat m.realmLen]
  else if kind = "bytes" ∧ expr = "m->realm_str len m->realm_len" then m.realm.take m.realmLen
  else if kind = "bytes" ∧ expr = "c->iv len c->iv_len" then iv
  else if kind = "bytes" ∧ expr = "c->salt len c->salt_len" then salt
  else if kind = "byte" ∧ expr = "m->addr_len=sizeof(m->addr)" then [4]
  else if kind = "bytes" ∧ expr = "&conf->addr len sizeof(m->addr)" then cf.addr.take 4
  else if kind = "be32" ∧ expr = "m->time0" then be32 m.time0
  else if kind = "be32" ∧ expr = "m->ttl" then be32 m.ttl
  else if kind = "be32" ∧ expr = "m->client_uid" then be32 m.clientUid
  else if kind = "be32" ∧ expr = "m->client_gid" then be32 m.clientGid
  else if kind = "be32" ∧ expr = "m->auth_uid" then be32 m.authUid
  else if kind = "be32" ∧ expr = "m->auth_gid" then be32 m.authGid
  else if kind = "be32" ∧ expr = "m->data_len" then be32 m.dataLen
  else if kind = "bytes" ∧ expr = "m->data len m->data_len" then m.data.take m.dataLen
  else [0xEE, 0xEE, 0xEE, 0xEE, 0xEE]      -- an item the model does not know: makes the equalities below fail

def renderLayout (cf : Conf) (m : Msg) (salt iv : Bytes) (lay : List (String × String × String)) : Bytes :=
  (lay.map fun (k, e, _) => itemBytes cf m salt iv k e).flatten

/-- `packOuter` is the interpretation of what `enc_pack_outer` writes, in source order, for every message -/
theorem pack_outer_follows_source (cf : Conf) (m : Msg) (salt iv : Bytes) :
    packOuter m iv = renderLayout cf m salt iv enc_pack_outer_layout := by
  simp [packOuter, renderLayout, enc_pack_outer_layout, itemBytes]

/-- `packInner` is the interpretation of what `enc_pack_inner` writes, in source order, for every message -/
theorem pack_inner_follows_source (cf : Conf) (m : Msg) (salt iv : Bytes) :
    packInner cf m salt = renderLayout cf m salt iv enc_pack_inner_layout := by
  simp [packInner, renderLayout, enc_pack_inner_layout, itemBytes]

end Munge.C10
