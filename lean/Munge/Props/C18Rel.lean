import Munge.Gen.TimerRel
import Munge.Lemmas.Kernel
/-!
# C18 (relative timers): `timer_set_relative` as translated from timer.c

The clock query `clock_get_timespec (&ts, msec)` and `timer_set_absolute (cb, arg, &ts)` are events; the timespec the first
stores through `&ts` is an opaque token.  (`clock_get_timespec` itself - "now + msec, normalised; now when msec ≤ 0" - is a
translated kernel with its own theorems in Props/C18.lean.)
-/
namespace Munge.C18Rel
open Munge.C Munge.Gen.TimerRel

/-- **A relative timer always asks the clock, whatever the delay - also for a delay of zero or less -, and is queued for exactly
    the time the clock query produced**: one clock query with the caller's `msec`, then one `timer_set_absolute` with that very
    timespec, whose result is returned.  (So a "due now" timer is keyed by the moment it was set and cannot sort ahead of
    timers that expired earlier and are still pending: the sorted-by-expiry order of the active list is the firing order.) -/
theorem relative_timer_is_keyed_by_the_clock (msec ts rc rs : Int) (hok : 0 ≤ rc) :
    (timer_set_relative msec ts rc rs).events = [("clock_get_timespec", [msec]), ("timer_set_absolute", [ts])] ∧
    (timer_set_relative msec ts rc rs).ret = rs := by
  kcases timer_set_relative with [Int.not_lt.mpr hok] <;> simp

/-- a failing clock is logged as fatal before anything is queued -/
theorem failing_clock_is_fatal (msec ts rc rs : Int) (hf : rc < 0) :
    (timer_set_relative msec ts rc rs).events.take 2 = [("clock_get_timespec", [msec]), ("log_errno", [])] := by
  kcases timer_set_relative with [hf] <;> simp

example : (timer_set_relative 0 777 0 5).events = [("clock_get_timespec", [0]), ("timer_set_absolute", [777])] := rfl
example : (timer_set_relative (-5) 777 0 5).events = [("clock_get_timespec", [-5]), ("timer_set_absolute", [777])] := rfl

end Munge.C18Rel
