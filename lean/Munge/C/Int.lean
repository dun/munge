/-
C integer semantics used by the generated kernels (`Munge/Gen/*.lean`) and the
hand-written models.  Every C value is an `Int`; an operation performed at C type
`T` is followed by `wrap T`.  Signed overflow is modelled as two's-complement
wrap (UBSan in the harness reports real signed overflow).
-/
namespace Munge.C

/-- value of an unsigned `bits`-bit C integer holding `x` -/
@[reducible] def wrapU8  (x : Int) : Int := x % 256
@[reducible] def wrapU16 (x : Int) : Int := x % 65536
@[reducible] def wrapU32 (x : Int) : Int := x % 4294967296
@[reducible] def wrapU64 (x : Int) : Int := x % 18446744073709551616

/-- value of a signed two's-complement C integer holding `x` -/
@[reducible] def wrapS8 (x : Int) : Int := (x + 128) % 256 - 128
@[reducible] def wrapS16 (x : Int) : Int := (x + 32768) % 65536 - 32768
@[reducible] def wrapS32 (x : Int) : Int := (x + 2147483648) % 4294967296 - 2147483648
@[reducible] def wrapS64 (x : Int) : Int :=
  (x + 9223372036854775808) % 18446744073709551616 - 9223372036854775808

/-- C truth value of a proposition -/
@[reducible] def b2i (p : Prop) [Decidable p] : Int := if p then 1 else 0

/-- C division truncates toward zero -/
@[reducible] def cdiv (a b : Int) : Int := Int.tdiv a b
@[reducible] def cmod (a b : Int) : Int := Int.tmod a b

/-- bitwise operations on non-negative values (the generated code only uses them on
    values already wrapped to an unsigned type or on non-negative constants) -/
def band (a b : Int) : Int := Int.ofNat (a.toNat &&& b.toNat)
def bor  (a b : Int) : Int := Int.ofNat (a.toNat ||| b.toNat)
def bxor (a b : Int) : Int := Int.ofNat (a.toNat ^^^ b.toNat)
def shl  (a b : Int) : Int := Int.ofNat (a.toNat <<< b.toNat)
def shr  (a b : Int) : Int := Int.ofNat (a.toNat >>> b.toNat)
/-- `~a` at an unsigned width of `bits` -/
def bnotU (bits : Nat) (a : Int) : Int := (2 : Int) ^ bits - 1 - a % (2 : Int) ^ bits

theorem wrapU32_range (x : Int) : 0 ≤ wrapU32 x ∧ wrapU32 x < 4294967296 := by
  unfold wrapU32; omega

theorem wrapU8_id {x : Int} (h0 : 0 ≤ x) (h1 : x < 256) : wrapU8 x = x := by
  unfold wrapU8; omega

theorem wrapU32_id {x : Int} (h0 : 0 ≤ x) (h1 : x < 4294967296) : wrapU32 x = x := by
  unfold wrapU32; omega

theorem wrapU64_id {x : Int} (h0 : 0 ≤ x) (h1 : x < 18446744073709551616) : wrapU64 x = x := by
  unfold wrapU64; omega

theorem wrapS32_id {x : Int} (h0 : -2147483648 ≤ x) (h1 : x < 2147483648) : wrapS32 x = x := by
  unfold wrapS32; omega

theorem wrapS64_id {x : Int} (h0 : -9223372036854775808 ≤ x) (h1 : x < 9223372036854775808) :
    wrapS64 x = x := by
  unfold wrapS64; omega

end Munge.C
